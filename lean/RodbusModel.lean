-- The development by area, in the order of the table "How the proofs are organised" of DESIGN.md §2.
-- Lemma files that are not listed (Reader; ClientOps, ClientTick; LifecycleEff, LifecycleInv,
-- LifecycleRun, LifecycleCalc, LifecycleDelay; Retry) come in through the files that build on them.

-- Model: the executable model mirroring the Rust code (DESIGN.md §4).
-- codec and PDU
import RodbusModel.Model.Basic
import RodbusModel.Model.Codec
import RodbusModel.Model.Pdu
-- read buffer and the two framings
import RodbusModel.Model.Buffer
import RodbusModel.Model.Mbap
import RodbusModel.Model.Crc
import RodbusModel.Model.Rtu
-- server: one frame, one session
import RodbusModel.Model.Server
import RodbusModel.Model.Session
-- client task
import RodbusModel.Model.Client
-- channel life cycle: TCP, the two serial tasks, the retry strategy
import RodbusModel.Model.Lifecycle
import RodbusModel.Model.SerialLife
import RodbusModel.Model.SerialServer
import RodbusModel.Model.Retry
-- accept loop: session tracker, address filter, the loop itself
import RodbusModel.Model.Tracker
import RodbusModel.Model.Filter
import RodbusModel.Model.ServerNet
-- TLS admission
import RodbusModel.Model.Tls
import RodbusModel.Model.TlsClientChain
-- C ABI
import RodbusModel.Model.Ffi

-- Spec: the declarative reference specifications the model is proved against.
import RodbusModel.Spec.Mbap
import RodbusModel.Spec.Rtu
import RodbusModel.Spec.Server
import RodbusModel.Spec.Client
import RodbusModel.Spec.Lifecycle
import RodbusModel.Spec.LifecycleObs
import RodbusModel.Spec.SerialLife
import RodbusModel.Spec.SerialServer
import RodbusModel.Spec.Ffi

-- Gen: tables generated from the Rust sources on every run (tools/translate.py).
import RodbusModel.Gen.Tables
import RodbusModel.Gen.FfiTables

-- Lemmas: per area, what a step does, proved once, and the invariants as case analyses on it.
-- codec
import RodbusModel.Lemmas.Codec
-- readers (over Lemmas.Reader: `Sim`, `Refines`, `pump_spec`, `runChunks_spec`)
import RodbusModel.Lemmas.Mbap
import RodbusModel.Lemmas.Crc
import RodbusModel.Lemmas.Rtu
-- server: model = reference server, its case form, serving, sessions; the demo configuration of
-- the examples
import RodbusModel.Lemmas.Server
import RodbusModel.Lemmas.ServerCases
import RodbusModel.Lemmas.ServerServe
import RodbusModel.Lemmas.ServerSession
import RodbusModel.Lemmas.ServerDemo
-- client PDU
import RodbusModel.Lemmas.ClientPdu
-- client task: ClientOps → ClientTick → ClientRunInv → ClientCore, then one file per family
import RodbusModel.Lemmas.ClientRunInv
import RodbusModel.Lemmas.ClientCore
import RodbusModel.Lemmas.ClientInv
import RodbusModel.Lemmas.ClientMeaning
import RodbusModel.Lemmas.ClientCause
import RodbusModel.Lemmas.ClientSessions
import RodbusModel.Lemmas.ClientReader
import RodbusModel.Lemmas.ClientSettle
import RodbusModel.Lemmas.ClientDrain
import RodbusModel.Lemmas.ClientChunk
import RodbusModel.Lemmas.ClientLogRun
import RodbusModel.Lemmas.ClientDecode
-- life cycle: Lifecycle → LifecycleEff → LifecycleInv → {LifecycleRun, LifecycleConn, LifecycleDelay}
import RodbusModel.Lemmas.Lifecycle
import RodbusModel.Lemmas.LifecycleConn
-- accept loop
import RodbusModel.Lemmas.ServerNet
-- C ABI
import RodbusModel.Lemmas.Ffi

-- Props: the property theorems with their examples, by property (DESIGN.md §5).
-- the hand-written model against the generated tables
import RodbusModel.Props.Tables
-- C01 the server replies exactly as the Modbus application protocol prescribes (one frame; a byte
-- stream; a session; a failing transport write)
import RodbusModel.Props.C01
import RodbusModel.Props.C01Stream
import RodbusModel.Props.C01Session
import RodbusModel.Props.C01Write
-- C02 application handlers see only valid, correctly decoded requests, exactly once
import RodbusModel.Props.C02
import RodbusModel.Props.C02Session
-- C03 the client transmits exactly the protocol encoding of a request, or nothing
import RodbusModel.Props.C03
import RodbusModel.Props.C03Run
-- C04 the client accepts only the genuine matching reply and returns exactly its data
import RodbusModel.Props.C04
-- C05 MBAP framing is segmentation-independent and rejects malformed headers (the reader; inside
-- the client task; cancelled reads)
import RodbusModel.Props.C05
import RodbusModel.Props.C05Client
import RodbusModel.Props.C05Cancel
-- C06 RTU frames are emitted with a correct CRC and accepted only if the CRC verifies
import RodbusModel.Props.C06
import RodbusModel.Props.C06Span
-- C07 no peer input can panic, wedge or silently kill a task
import RodbusModel.Props.C07
import RodbusModel.Props.C07Client
-- C08 a denied request has no effect and is answered with exception 01
import RodbusModel.Props.C08
-- C09 TLS admits only authenticated peers at or above the minimum protocol version
import RodbusModel.Props.C09
import RodbusModel.Props.C09Client
-- C10 every client request completes exactly once, under every interleaving
import RodbusModel.Props.C10
import RodbusModel.Props.C10Drain
-- C11 replies are matched to requests by transaction id; no cross-talk
import RodbusModel.Props.C11
import RodbusModel.Props.C11Run
import RodbusModel.Props.C11Trace
-- C12 response timeouts fire exactly at the deadline; N in a row drop the connection
import RodbusModel.Props.C12
import RodbusModel.Props.C12Run
-- C13 the client connection life cycle is a legal state path; requests fail fast when down
import RodbusModel.Props.C13
import RodbusModel.Props.C13Conn
import RodbusModel.Props.C13Serial
-- C14 reconnect delays follow the retry strategy (the strategy; the TCP channel; the two serial
-- tasks)
import RodbusModel.Props.C14
import RodbusModel.Props.C14Life
import RodbusModel.Props.C14Serial
import RodbusModel.Props.C14Server
-- C15 server sessions: bounded, oldest evicted, isolated, all closed on shutdown (the tracker; the
-- accept loop; with TLS)
import RodbusModel.Props.C15
import RodbusModel.Props.C15Net
import RodbusModel.Props.C15NetTls
-- C16 only peers matching the address filter are ever served
import RodbusModel.Props.C16
-- C17 multi-drop discipline: silent unless addressed; broadcast writes reach all units
import RodbusModel.Props.C17
import RodbusModel.Props.C17Write
-- C18 the C ABI reports and forwards exactly what the Rust API would; C19 its point database is a
-- per-type map with atomic transactions
import RodbusModel.Props.C18
import RodbusModel.Props.C19
-- C20 protocol decoding (logging) is purely observational (server; client)
import RodbusModel.Props.C20
import RodbusModel.Props.C20Client

-- Audit: `#print axioms` for the property theorems.  A Props file without an Audit file of its own
-- is audited under its property: Tables, C01Stream, C01Session, C01Write in Audit/C01, C02Session
-- in C02, C05Cancel in C05, C06Span in C06, C09Client in C09, C15NetTls in C15Net, C17Write in C17.
import RodbusModel.Audit.C01
import RodbusModel.Audit.C02
import RodbusModel.Audit.C03
import RodbusModel.Audit.C03Run
import RodbusModel.Audit.C04
import RodbusModel.Audit.C05
import RodbusModel.Audit.C05Client
import RodbusModel.Audit.C06
import RodbusModel.Audit.C07
import RodbusModel.Audit.C07Client
import RodbusModel.Audit.C08
import RodbusModel.Audit.C09
import RodbusModel.Audit.C10
import RodbusModel.Audit.C10Drain
import RodbusModel.Audit.C11
import RodbusModel.Audit.C11Run
import RodbusModel.Audit.C11Trace
import RodbusModel.Audit.C12
import RodbusModel.Audit.C12Run
import RodbusModel.Audit.C13
import RodbusModel.Audit.C13Conn
import RodbusModel.Audit.C13Serial
import RodbusModel.Audit.C14
import RodbusModel.Audit.C14Life
import RodbusModel.Audit.C14Serial
import RodbusModel.Audit.C14Server
import RodbusModel.Audit.C15
import RodbusModel.Audit.C15Net
import RodbusModel.Audit.C16
import RodbusModel.Audit.C17
import RodbusModel.Audit.C18
import RodbusModel.Audit.C19
import RodbusModel.Audit.C20
import RodbusModel.Audit.C20Client
