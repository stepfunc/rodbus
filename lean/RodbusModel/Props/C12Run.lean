import RodbusModel.Props.C12
import RodbusModel.Lemmas.ClientSessions
/-
  C12 at the level of whole runs.  Props/C12 states the timing of a request for one tick and the
  timeout counter for an abstract outcome sequence (`counter_exact` over `feed`); here the deadline
  for `Step.advance` in every state a script reaches (`timeout_at_deadline_run`, and conversely
  `timeout_completion_at_deadline_run`) and the counter for the log the TASK writes during a run
  (`max_timeouts_exact_run`; `taskLog`, `curOutcomes`: Lemmas/ClientSessions).  Why the task log
  and not the whole log: `as_worded_is_false`.
-/
namespace Rodbus.Client

/-- `timeout_at_deadline_run`, for a framing whose reader is known to have nothing to deliver in
    `s` (hypothesis `hq`; discharged for MBAP and RTU below).  `s` is any state a script reaches
    with request `r` in flight and deadline `dl`.  Then `s.now ≤ dl`, and for the step
    `Step.advance ms` (nothing is delivered):
    * `s.now + ms < dl`: only the clock moves — the request stays in flight with the same
      deadline, nothing is logged (not a timeout in particular);
    * `dl ≤ s.now + ms`: the log afterwards contains the completion of `r` with `timeout`,
      stamped with exactly `dl`. -/
theorem timeout_at_deadline_of_quiet {σ : Type} (F : Framing σ) (cap maxTo : Nat) (d : Decode)
    (coins : List Bool) (steps : List Step) (s : State σ)
    (hs : s = runState F (State.init F cap maxTo d coins) steps) (m : Nat) (r : Req) (tx dl : Nat)
    (hp : s.pos = .inflight m r tx dl) (hq : (pollReader F s m).1 = .blocked) (ms : Nat) :
    s.now ≤ dl
      ∧ (s.now + ms < dl → stepState F s (.advance ms) = { s with now := s.now + ms })
      ∧ (dl ≤ s.now + ms →
          LogEntry.done r.rid r.style .timeout dl ∈ (stepState F s (.advance ms)).log) := by
  have htidy := tidy_reach _ (reach_of_eq hs)
  have hnow : s.now ≤ dl := htidy.deadline hp
  have ha : s.alive = true := htidy.alive hp
  exact ⟨hnow, advance_before_deadline F s m r tx dl ms ha hp,
    advance_reaches_deadline F s m r tx dl ms ha hp hq hnow⟩

/-- For a framing whose parser consumes or blocks with a parser-state weight of at most 1 (the
    bound `Refines.w_le` gives; 11 would do, `mu_lt_settleFuel`), no hypothesis on the reader is
    needed: in every state a script reaches, the reader of the request in flight has nothing to
    deliver (`reachable_quiet`: the tasks ran until they blocked, so every byte that was pending on
    the transport has been read and every complete frame in the buffer has been handled). -/
theorem timeout_at_deadline_run {σ : Type} (F : Framing σ) (w : σ → Nat) (hw : ParseMeasure F w)
    (hb : ∀ st, w st ≤ 1) (cap maxTo : Nat) (d : Decode) (coins : List Bool) (steps : List Step)
    (s : State σ) (hs : s = runState F (State.init F cap maxTo d coins) steps) (m : Nat)
    (r : Req) (tx dl : Nat) (hp : s.pos = .inflight m r tx dl) (ms : Nat) :
    (pollReader F s m).1 = .blocked
      ∧ s.now ≤ dl
      ∧ (s.now + ms < dl → stepState F s (.advance ms) = { s with now := s.now + ms })
      ∧ (dl ≤ s.now + ms →
          LogEntry.done r.rid r.style .timeout dl ∈ (stepState F s (.advance ms)).log) := by
  have ha : s.alive = true := (tidy_reach _ (reach_of_eq hs)).alive hp
  have hq : (pollReader F s m).1 = .blocked :=
    (hs ▸ reachable_quiet F w hw hb cap maxTo d coins steps) ha m r tx dl hp
  exact ⟨hq, timeout_at_deadline_of_quiet F cap maxTo d coins steps s hs m r tx dl hp hq ms⟩

theorem timeout_at_deadline_run_mbap (cap maxTo : Nat) (d : Decode) (coins : List Bool)
    (steps : List Step) (s : State Mbap.PState)
    (hs : s = runState mbap (State.init mbap cap maxTo d coins) steps) (m : Nat) (r : Req)
    (tx dl : Nat) (hp : s.pos = .inflight m r tx dl) (ms : Nat) :
    (pollReader mbap s m).1 = .blocked
      ∧ s.now ≤ dl
      ∧ (s.now + ms < dl → stepState mbap s (.advance ms) = { s with now := s.now + ms })
      ∧ (dl ≤ s.now + ms →
          LogEntry.done r.rid r.style .timeout dl ∈ (stepState mbap s (.advance ms)).log) :=
  timeout_at_deadline_run mbap mbapW mbap_measure mbapW_le_one cap maxTo d coins steps s hs m r tx dl
    hp ms

theorem timeout_at_deadline_run_rtu (cap maxTo : Nat) (d : Decode) (coins : List Bool)
    (steps : List Step) (s : State Rtu.PState)
    (hs : s = runState rtu (State.init rtu cap maxTo d coins) steps) (m : Nat) (r : Req)
    (tx dl : Nat) (hp : s.pos = .inflight m r tx dl) (ms : Nat) :
    (pollReader rtu s m).1 = .blocked
      ∧ s.now ≤ dl
      ∧ (s.now + ms < dl → stepState rtu s (.advance ms) = { s with now := s.now + ms })
      ∧ (dl ≤ s.now + ms →
          LogEntry.done r.rid r.style .timeout dl ∈ (stepState rtu s (.advance ms)).log) :=
  timeout_at_deadline_run rtu (fun _ => 0) rtu_measure (fun _ => Nat.zero_le _) cap maxTo d coins
    steps s hs m r tx dl hp ms

/-- `timeout_only_at_deadline` for whole runs.  Every `timeout` completion in the log of a run was
    logged by the tick taken in a state `s0` of the run in which that request was in flight with
    deadline `dl` (written with transaction id `tx`), at the instant `s0.now = dl`, and the stamp
    of the completion is `dl`. -/
theorem timeout_completion_at_deadline_run {σ : Type} (F : Framing σ) (cap maxTo : Nat)
    (d : Decode) (coins : List Bool) (steps : List Step) (rid : Rid) (style : Style) (time : Nat)
    (h : LogEntry.done rid style .timeout time
          ∈ (runState F (State.init F cap maxTo d coins) steps).log) :
    ∃ s0 ∈ runTrace F (State.init F cap maxTo d coins) steps,
    ∃ m req tx dl bytes,
      s0.pos = .inflight m req tx dl ∧ req.rid = rid ∧ req.style = style
        ∧ s0.now = dl ∧ time = dl
        ∧ (rid, tx, bytes) ∈ (runState F (State.init F cap maxTo d coins) steps).sent := by
  rcases completion_cause F cap maxTo d coins steps _ rfl h with h1 | ⟨s0, hs0, r, res, he, hc⟩
  · rcases h1.res with h | ⟨_, h⟩ <;> cases h
  · cases he
    obtain ⟨m, tx, dl, hp, hdl⟩ := hc.timeout
    obtain ⟨hreach, bytes, _, hb⟩ := runTrace_inflight_sent F cap maxTo d coins steps s0 hs0 hp
    have : s0.now = dl := Nat.le_antisymm ((tidy_reach _ hreach).deadline hp) hdl
    exact ⟨s0, hs0, m, r, tx, dl, bytes, hp, rfl, rfl, this, this, hb⟩

/-- The task log of a run is the log of the run without what the script steps logged themselves:
    a sublist of the log that has all its `.fin` entries, in the same order, and every completion
    of the log that is not in it was produced by a script step itself (the API call completed the
    promise: `shutdown` or `bad request`). -/
theorem task_log_is_the_log_of_the_task {σ : Type} (F : Framing σ) (cap maxTo : Nat) (d : Decode)
    (coins : List Bool) (steps : List Step) :
    List.Sublist (taskLog F (State.init F cap maxTo d coins) steps)
        (runState F (State.init F cap maxTo d coins) steps).log
      ∧ (runState F (State.init F cap maxTo d coins) steps).log.filter (·.isFin)
          = (taskLog F (State.init F cap maxTo d coins) steps).filter (·.isFin)
      ∧ ∀ e ∈ (runState F (State.init F cap maxTo d coins) steps).log, e.isDone = true →
          e ∈ taskLog F (State.init F cap maxTo d coins) steps ∨ UserDone e := by
  have := taskLog_fins F (State.init F cap maxTo d coins) steps
  refine ⟨by simpa [State.init] using this.1, by simpa [State.init] using this.2, ?_⟩
  intro e he hd
  rcases taskLog_done F _ steps e hd he with h | h | h
  · exact Or.inl h
  · simp [State.init] at h
  · exact Or.inr h

/-- `counter_exact` for the sessions of every run.  Let `L` be the task
    log of a run with limit `maxTo`.  For every `.fin k t` in `L` (the end of a phase), with
    `older` the log before it and `curOutcomes older` the results of the completions logged since
    the previous `.fin` (the completions of that phase, oldest first):
    * `k` is `MaxTimeouts` iff `maxTo ≥ 1` and the last `maxTo` of these completions are timeouts;
    * the number it reports is `maxTo`;
    * at no earlier point of the phase were the last `maxTo` completions timeouts
      (so the phase ends exactly at the first such point, any other outcome restarts the count).
    And in the phase still running at the end of `L` that point has not been reached. -/
theorem max_timeouts_exact_run {σ : Type} (F : Framing σ) (cap maxTo : Nat) (d : Decode)
    (coins : List Bool) (steps : List Step) :
    (∀ post k t older, taskLog F (State.init F cap maxTo d coins) steps = post ++ .fin k t :: older →
        ((∃ n, k = .maxTo n) ↔ (1 ≤ maxTo ∧ maxTo ≤ trailing (curOutcomes older)))
          ∧ (∀ n, k = .maxTo n → n = maxTo)
          ∧ (1 ≤ maxTo → ∀ j, j < (curOutcomes older).length →
              trailing ((curOutcomes older).take j) < maxTo))
      ∧ (1 ≤ maxTo → ¬ Hit maxTo (curOutcomes (taskLog F (State.init F cap maxTo d coins) steps))) := by
  have inv := runState_sessInv F maxTo (State.init F cap maxTo d coins) steps []
    (by rw [core_init]; exact sessInv_init maxTo)
  rw [List.append_nil] at inv
  refine ⟨?_, fun h => by rw [← phasesOf_fst]; exact inv.noHit h⟩
  intro post k t older hL
  have hmem := phasesOf_split post older k t
  rw [← hL] at hmem
  have := inv.closed _ hmem
  rw [← phasesOf_fst]
  exact this

/-- every `MaxTimeouts` in the log of a run reports the configured limit, which is at least 1 -/
theorem max_timeouts_reports_limit {σ : Type} (F : Framing σ) (cap maxTo : Nat) (d : Decode)
    (coins : List Bool) (steps : List Step) (n t : Nat)
    (h : LogEntry.fin (.maxTo n) t ∈ (runState F (State.init F cap maxTo d coins) steps).log) :
    n = maxTo ∧ 1 ≤ maxTo := by
  have h1 : LogEntry.fin (.maxTo n) t
      ∈ (runState F (State.init F cap maxTo d coins) steps).log.filter (·.isFin) := by
    simp [List.mem_filter, h, LogEntry.isFin]
  rw [(task_log_is_the_log_of_the_task F cap maxTo d coins steps).2.1] at h1
  have h2 := (List.mem_filter.mp h1).1
  obtain ⟨post, older, hL⟩ := List.append_of_mem h2
  obtain ⟨a, b, _⟩ := (max_timeouts_exact_run F cap maxTo d coins steps).1 post _ t older hL
  exact ⟨b n rfl, (a.mp ⟨n, rfl⟩).1⟩

/-- `counter_no_limit` for every run: with `maxTo = 0` no phase of any run ever ends with
    `MaxTimeouts` (in the whole log, not only the task log). -/
theorem no_limit_never_max_timeouts {σ : Type} (F : Framing σ) (cap : Nat) (d : Decode)
    (coins : List Bool) (steps : List Step) (n t : Nat) :
    LogEntry.fin (.maxTo n) t ∉ (runState F (State.init F cap 0 d coins) steps).log :=
  fun h => absurd (max_timeouts_reports_limit F cap 0 d coins steps n t h).2 (by omega)

/-- the link to `counter_exact`: for a phase of a run whose completions are not themselves
    session-ending errors, "the phase ended with `MaxTimeouts`" is what the abstract bookkeeping
    `feed` computes from the outcomes of that phase, started in an idle session with the counter
    at zero -/
theorem max_timeouts_iff_feed {σ : Type} (F : Framing σ) (cap maxTo : Nat) (d : Decode)
    (coins : List Bool) (steps : List Step) (post older : List LogEntry) (k : EndKind) (t : Nat)
    (hL : taskLog F (State.init F cap maxTo d coins) steps = post ++ .fin k t :: older)
    (hN : 1 ≤ maxTo) (m : Nat) (c : Core) (hp : c.pos = .idle m) (hn : c.nto = 0)
    (hm : c.maxTo = maxTo) (hrs : ∀ r ∈ curOutcomes older, r.sessionEnd = none) :
    (∃ n, k = .maxTo n) ↔ (feed m c (curOutcomes older)).pos = .noPhase := by
  obtain ⟨a, _, e⟩ := (max_timeouts_exact_run F cap maxTo d coins steps).1 post k t older hL
  rw [counter_exact m maxTo hN c hp hn hm _ hrs, a]
  constructor
  · rintro ⟨_, h⟩; exact ⟨_, Nat.le_refl _, by rwa [List.take_length]⟩
  · rintro ⟨j, hj, h⟩
    refine ⟨hN, ?_⟩
    by_cases hlt : j < (curOutcomes older).length
    · have := e hN j hlt; omega
    · have : j = (curOutcomes older).length := by omega
      rw [this, List.take_length] at h; exact h

namespace Example

/-- (a) the hypothesis of `timeout_at_deadline_run_mbap` holds after `[N, submit a]`: `a` is in
    flight with deadline 10; `advance 9` only moves the clock, `advance 10` logs the timeout at
    10, and so does `advance 9` followed by `advance 1` -/
example :
    let s := runState mbap s16 [.newSession, .submit .R 0 (rc "a" .future 10)]
    s.pos = .inflight 0 (rc "a" .future 10) 0 10
      ∧ (pollReader mbap s 0).1 = .blocked
      ∧ (stepState mbap s (.advance 9)).log = s.log
      ∧ (stepState mbap s (.advance 9)).pos = s.pos
      ∧ (stepState mbap s (.advance 9)).now = 9
      ∧ (stepState mbap s (.advance 10)).log.head? = some (.done "a" .future .timeout 10)
      ∧ (stepState mbap s (.advance 25)).log.head? = some (.done "a" .future .timeout 10)
      ∧ (runState mbap s [.advance 9, .advance 1]).log.head? = some (.done "a" .future .timeout 10) := by
  decide +kernel

/-- the same with bytes of an incomplete reply in the read buffer (the reader is quiet: it has
    read them, they do not form a frame) -/
example :
    let s := runState mbap s16
      [.newSession, .submit .R 0 (rc "a" .future 10), .rx (.data [0, 0, 0, 0, 0, 4, 1, 1])]
    s.pos = .inflight 0 (rc "a" .future 10) 0 10
      ∧ (pollReader mbap s 0).1 = .blocked
      ∧ (stepState mbap s (.advance 10)).log.head? = some (.done "a" .future .timeout 10) := by
  decide +kernel

example :
    let s := runState rtu (State.init rtu 16 0 ⟨0, 0, 0⟩ [])
      [.newSession, .submit .R 0 (rc "a" .future 10), .advance 4]
    s.pos = .inflight 0 (rc "a" .future 10) 0 10 ∧ s.now = 4
      ∧ (stepState rtu s (.advance 5)).log = s.log
      ∧ (stepState rtu s (.advance 6)).log.head? = some (.done "a" .future .timeout 10) := by
  decide +kernel

/-- (b) limit 2.  `a` times out; `x` is refused by the API call itself (`Channel` literal range
    65535+10: the promise completes with the range error at once, the task never sees it);
    `b` times out: the session ends with `MaxTimeouts(2)`. -/
def limit2 : List Step :=
  [.newSession, .submit .R 0 (rc "a" .future 10), .advance 10,
   .submit .Q 0 ⟨"x", .future, 1, 10, .readCoils 65535 10⟩,
   .submit .R 0 (rc "b" .future 10), .advance 10]

def init2 : State Mbap.PState := State.init mbap 16 2 ⟨0, 0, 0⟩ []

/-- The statement "a session ends with `.maxTo N` iff the last `N`
    completions in the log segment of that session were timeouts" is FALSE for the whole log:
    here the segment ends with `MaxTimeouts(2)` although its last two completions are
    `x: bad request`, `b: timeout` — a completion by the API call does not restart the count,
    while the same result produced by the task (a request that cannot be encoded, or an echoed
    range that is invalid: `respResult`) does, so the whole log does not determine the counter.
    In the task log the completion of `x` does not occur, and `max_timeouts_exact_run` holds. -/
theorem as_worded_is_false :
    (runState mbap init2 limit2).log
        = [.fin (.maxTo 2) 20, .done "b" .future .timeout 20,
           .tx [0, 1, 0, 0, 0, 6, 1, 1, 0, 0, 0, 8],
           .done "x" .future (.badReq (.badRange .addressOverflow)) 10,
           .done "a" .future .timeout 10, .tx [0, 0, 0, 0, 0, 6, 1, 1, 0, 0, 0, 8]]
      ∧ curOutcomes ((runState mbap init2 limit2).log.drop 1)
        = [.timeout, .badReq (.badRange .addressOverflow), .timeout]
      ∧ trailing (curOutcomes ((runState mbap init2 limit2).log.drop 1)) = 1
      ∧ taskLog mbap init2 limit2
        = [.fin (.maxTo 2) 20, .done "b" .future .timeout 20,
           .tx [0, 1, 0, 0, 0, 6, 1, 1, 0, 0, 0, 8],
           .done "a" .future .timeout 10, .tx [0, 0, 0, 0, 0, 6, 1, 1, 0, 0, 0, 8]]
      ∧ curOutcomes ((taskLog mbap init2 limit2).drop 1) = [.timeout, .timeout]
      ∧ trailing (curOutcomes ((taskLog mbap init2 limit2).drop 1)) = 2 := by
  decide +kernel

/-- limit 2: timeout, exception (restarts the count), timeout, timeout: `MaxTimeouts(2)` at the
    fourth outcome, not at the second or third; then a second session with one timeout that is
    still running -/
example :
    let script := [Step.newSession, .submit .R 0 (rc "a" .future 10),
      .submit .R 0 (rc "b" .future 10), .submit .R 0 (rc "c" .future 10),
      .submit .R 0 (rc "d" .future 10), .submit .R 0 (rc "e" .future 10),
      .advance 10, .rx (.data [0, 1, 0, 0, 0, 3, 1, 0x81, 2]), .advance 20,
      .newSession, .advance 10]
    phasesOf (taskLog mbap init2 script)
      = ([.timeout], [(.maxTo 2, 30, [.timeout, .exc 2, .timeout, .timeout])]) := by
  decide +kernel

/-- without a limit five timeouts in a row leave the session running -/
example :
    let script := [Step.newSession, .submit .R 0 (rc "a" .future 10),
      .submit .R 0 (rc "b" .future 10), .submit .R 0 (rc "c" .future 10),
      .submit .R 0 (rc "d" .future 10), .submit .R 0 (rc "e" .future 10), .advance 50]
    phasesOf (taskLog mbap s16 script)
        = ([.timeout, .timeout, .timeout, .timeout, .timeout], [])
      ∧ (runState mbap s16 script).pos = .idle 0 := by
  decide +kernel

/-- a session that ends for another reason: the peer closes the connection while `a` is in
    flight -/
example :
    phasesOf (taskLog mbap init2 [.newSession, .submit .R 0 (rc "a" .future 10), .rx .eof])
      = ([], [(.io .eof, 0, [.io .eof])]) := by
  decide +kernel

end Example

end Rodbus.Client
