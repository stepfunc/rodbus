import RodbusModel.Props.C10
/-
  C10, liveness part: `drain_completes`.  From EVERY reachable state in which the task exists (a
  request in flight and others queued, `wait_for_enabled`, `fail_requests_for`, between phases,
  phases still scheduled, the tasks not yet run to the end, …) a finite continuation of the script
  that needs no cooperation from the peer or the user completes every accepted request exactly as
  often as it was accepted.  The continuation has two kinds of steps only: `.advance n` (the clock
  moves to the deadline of the request in flight, whatever its timeout; 1 ms in the final rounds)
  and `.failFor 1` (one more `fail_requests_for(1 ms)` phase, which the channel tasks of the library
  run on their own after a connection has been lost or has ended; inside a running phase the step
  only lets the tasks run on).

  Hypothesis on the framing: `Consuming F` (Lemmas/ClientReader), proved for `mbap` and `rtu`.  Why
  it is there (an argument, no theorem states it): a parser that returns a frame without consuming
  anything keeps the `select!` of an idle session busy with its reader branch for ever (with the
  default coin), and the queue is never looked at.
-/
namespace Rodbus.Client

/-- `more`: the continuation; afterwards nothing is queued or in flight, nothing new has been
    accepted, and every request id has been completed exactly as often as it had been accepted in
    `s` (exactly once for a script with distinct ids, `drain_completes_once`). -/
theorem drain_completes {σ : Type} (F : Framing σ) (hF : Consuming F) (cap maxTo : Nat)
    (d : Decode) (coins : List Bool) (steps : List Step) (s : State σ)
    (hs : s = runState F (State.init F cap maxTo d coins) steps) (halive : s.alive = true) :
    ∃ more : List Step, (∀ st ∈ more, (∃ n, st = .advance n) ∨ st = .failFor 1) ∧
      ∀ s', s' = runState F (State.init F cap maxTo d coins) (steps ++ more) →
        queueIds s'.queue = [] ∧ inflightIds s'.pos = [] ∧ s'.accepted = s.accepted
          ∧ ∀ rid, (doneIds s'.log).count rid = s.accepted.count rid := by
  obtain ⟨more, hkind, hq, hp, hacc⟩ := drains_all F hF s halive
  refine ⟨more, hkind, ?_⟩
  intro s' hs'
  have hs'' : s' = runState F s more := by rw [hs', runState_append, ← hs]
  rw [← hs''] at hq hp hacc
  refine ⟨hq, hp, hacc, ?_⟩
  intro rid
  rw [← hacc]
  exact drained_exactly_once F cap maxTo d coins (steps ++ more) s' hs' rid hq hp

theorem drain_completes_mbap (cap maxTo : Nat) (d : Decode) (coins : List Bool)
    (steps : List Step) (s : State Mbap.PState)
    (hs : s = runState mbap (State.init mbap cap maxTo d coins) steps) (halive : s.alive = true) :
    ∃ more : List Step, (∀ st ∈ more, (∃ n, st = .advance n) ∨ st = .failFor 1) ∧
      ∀ s', s' = runState mbap (State.init mbap cap maxTo d coins) (steps ++ more) →
        queueIds s'.queue = [] ∧ inflightIds s'.pos = [] ∧ s'.accepted = s.accepted
          ∧ ∀ rid, (doneIds s'.log).count rid = s.accepted.count rid :=
  drain_completes mbap mbap_consuming cap maxTo d coins steps s hs halive

theorem drain_completes_rtu (cap maxTo : Nat) (d : Decode) (coins : List Bool)
    (steps : List Step) (s : State Rtu.PState)
    (hs : s = runState rtu (State.init rtu cap maxTo d coins) steps) (halive : s.alive = true) :
    ∃ more : List Step, (∀ st ∈ more, (∃ n, st = .advance n) ∨ st = .failFor 1) ∧
      ∀ s', s' = runState rtu (State.init rtu cap maxTo d coins) (steps ++ more) →
        queueIds s'.queue = [] ∧ inflightIds s'.pos = [] ∧ s'.accepted = s.accepted
          ∧ ∀ rid, (doneIds s'.log).count rid = s.accepted.count rid :=
  drain_completes rtu rtu_consuming cap maxTo d coins steps s hs halive

/-- With distinct request ids: after the continuation every accepted request has been completed
    exactly once. -/
theorem drain_completes_once {σ : Type} (F : Framing σ) (hF : Consuming F) (cap maxTo : Nat)
    (d : Decode) (coins : List Bool) (steps : List Step) (hnd : (scriptRids steps).Nodup)
    (s : State σ) (hs : s = runState F (State.init F cap maxTo d coins) steps)
    (halive : s.alive = true) :
    ∃ more : List Step, (∀ st ∈ more, (∃ n, st = .advance n) ∨ st = .failFor 1) ∧
      ∀ s', s' = runState F (State.init F cap maxTo d coins) (steps ++ more) →
        ∀ rid ∈ s.accepted, (doneIds s'.log).count rid = 1 := by
  obtain ⟨more, hkind, h⟩ := drain_completes F hF cap maxTo d coins steps s hs halive
  exact ⟨more, hkind, fun s' hs' rid hmem =>
    ((h s' hs').2.2.2 rid).trans (accepted_count_one F cap maxTo d coins steps hnd s hs rid hmem)⟩

namespace Example

/-- In the middle of a session (MBAP, no timeout limit): `a` is in flight with 250 ms left, `b`
    (timeout 0) and `c` (timeout 70000) are queued, the peer is silent.  The continuation the proof
    of `drain_completes` chooses for such a state — move the clock to the deadline of the request
    in flight, again and again — completes all three with `timeout`, in order. -/
example :
    let s := runState mbap s16
      [.newSession, .submit .R 0 (rc "a" .future 250), .submit .C 0 (rc "b" .callback 0),
       .submit .T 0 (rc "c" .trySend 70000)]
    (s.alive = true ∧ inflightIds s.pos = ["a"] ∧ queueIds s.queue = ["b", "c"]
        ∧ doneIds s.log = [])
      ∧ (let s' := runState mbap s [.advance 250, .advance 70000]
         queueIds s'.queue = [] ∧ inflightIds s'.pos = [] ∧ s'.accepted = s.accepted
           ∧ doneIds s'.log = ["c", "b", "a"]
           ∧ ∀ rid ∈ s.accepted, (doneIds s'.log).count rid = 1) := by decide +kernel

/-- The same with a timeout limit of 2 (the second timeout ends the session with two requests
    still queued) on RTU: the clock moves to the two deadlines, then rounds of
    `fail_requests_for(1 ms)` + 1 ms complete the rest with `noconn`. -/
example :
    let s := runState rtu (State.init rtu 16 2 ⟨0, 0, 0⟩ [])
      [.newSession, .submit .R 0 (rc "a" .future 10), .submit .C 0 (rc "b" .callback 20),
       .submit .R 0 (rc "c" .future 30), .submit .T 0 (rc "d" .trySend 40)]
    (s.alive = true ∧ inflightIds s.pos = ["a"] ∧ queueIds s.queue = ["b", "c", "d"])
      ∧ (let s' := runState rtu s [.advance 10, .advance 20, .failFor 1, .advance 1]
         queueIds s'.queue = [] ∧ inflightIds s'.pos = [] ∧ s'.accepted = s.accepted
           ∧ s'.log.filter LogEntry.isDone
              = [.done "d" .trySend .noConn 30, .done "c" .future .noConn 30,
                 .done "b" .callback .timeout 30, .done "a" .future .timeout 10]) := by decide +kernel

end Example

end Rodbus.Client
