import RodbusModel.Lemmas.ClientPdu
import RodbusModel.Gen.Tables
import RodbusModel.Lemmas.Mbap
import RodbusModel.Lemmas.Rtu
/-
  C03  The client transmits exactly the protocol encoding of a request, or nothing: requests
       outside the protocol limits are always rejected, so no frame longer than 260 bytes (TCP) /
       256 bytes (serial) is ever emitted.

  `req.FieldsU16` / `req.ValuesU16` say that the start / count / index / value arguments and the
  elements of a register vector are u16 values, as their Rust types make them; a value vector
  may have any length.
-/
namespace Rodbus.C03
open Rodbus.Spec.Client
open Rodbus.ClientPdu (instDecidableEqExcept)

/-- `AddressRange::try_from` accepts a range iff its count is not 0 and its last address
    `start + count - 1` fits u16 -/
theorem tryFrom_ok_iff : ∀ s c, s < 65536 → c < 65536 →
    (Range.tryFrom s c = .ok ⟨s, c⟩ ↔ c ≠ 0 ∧ s + c ≤ 65536) :=
  ClientPdu.tryFrom_ok_iff

theorem tryFrom_zero : ∀ s, Range.tryFrom s 0 = .error .countOfZero := Range.tryFrom_zero

theorem tryFrom_overflow : ∀ s c, c ≠ 0 → c < 65536 → s + c > 65536 →
    Range.tryFrom s c = .error .addressOverflow :=
  fun _ _ h0 hc h => Range.tryFrom_overflow h0 (Nat.le_of_lt hc) h

theorem tryFrom_ok_only {s c : Nat} {r : Range} (h : Range.tryFrom s c = .ok r) : r = ⟨s, c⟩ :=
  (Range.tryFrom_ok_eq h).1

/-- On u16 arguments the client produces a request PDU iff the request is valid: quantity ≥ 1,
    no address overflow, quantity ≤ 2000 / 125 (reads), 1968 / 123 (write-multiple). -/
theorem encode_ok_iff (req : ClientReq) (h : req.FieldsU16) :
    (∃ bytes, encodeRequest req = .ok bytes) ↔ ClientValid req := by
  rw [ClientPdu.encode_eq req (.of_fields h), ← ClientPdu.rejection_none_iff req h]
  cases rejection req <;> simp

/-- requests outside the protocol limits are always rejected (nothing is transmitted) -/
theorem reject_invalid (req : ClientReq) (h : req.FieldsU16) (hn : ¬ ClientValid req) :
    ∃ e, encodeRequest req = .error e := by
  cases he : encodeRequest req with
  | ok bytes => exact absurd ((encode_ok_iff req h).1 ⟨bytes, he⟩) hn
  | error e => exact ⟨e, rfl⟩

/-- a complete description of `encodeRequest` on u16 arguments: which error for which violated
    clause (`rejection`, Spec/Client.lean; spelled out per request family below), and the bytes
    otherwise -/
theorem encode_error_kinds (req : ClientReq) (h : req.FieldsU16) :
    encodeRequest req = match rejection req with
      | some e => .error e
      | none => .ok (pdu req) :=
  ClientPdu.encode_eq req (.of_fields h)

theorem read_bits_errors (s c : Nat) (hc : c < 65536) :
    (c = 0 → encodeRequest (.readCoils s c) = .error (.badRange .countOfZero)) ∧
    (c ≠ 0 → s + c > 65536 →
      encodeRequest (.readCoils s c) = .error (.badRange .addressOverflow)) ∧
    (c ≠ 0 → s + c ≤ 65536 → c > 2000 →
      encodeRequest (.readCoils s c) = .error (.badRange .countTooLargeForType)) := by
  have h := ClientPdu.encode_eq (.readCoils s c) hc
  refine ⟨fun h0 => ?_, fun h0 h1 => ?_, fun h0 h1 h2 => ?_⟩ <;> rw [h]
  · simp [rejection, h0]
  · simp [rejection, h0, h1]
  · simp [rejection, h0, Nat.not_lt.2 h1, h2]

theorem read_registers_errors (s c : Nat) (hc : c < 65536) :
    (c = 0 → encodeRequest (.readHoldingRegisters s c) = .error (.badRange .countOfZero)) ∧
    (c ≠ 0 → s + c > 65536 →
      encodeRequest (.readHoldingRegisters s c) = .error (.badRange .addressOverflow)) ∧
    (c ≠ 0 → s + c ≤ 65536 → c > 125 →
      encodeRequest (.readHoldingRegisters s c) = .error (.badRange .countTooLargeForType)) := by
  have h := ClientPdu.encode_eq (.readHoldingRegisters s c) hc
  refine ⟨fun h0 => ?_, fun h0 h1 => ?_, fun h0 h1 h2 => ?_⟩ <;> rw [h]
  · simp [rejection, h0]
  · simp [rejection, h0, h1]
  · simp [rejection, h0, Nat.not_lt.2 h1, h2]

theorem write_multiple_errors (s : Nat) (vals : List Bool) :
    (vals.length > 65535 → encodeRequest (.writeMultipleCoils s vals) = .error .countTooBigForU16) ∧
    (vals.length = 0 →
      encodeRequest (.writeMultipleCoils s vals) = .error (.badRange .countOfZero)) ∧
    (0 < vals.length → vals.length ≤ 65535 → s + vals.length > 65536 →
      encodeRequest (.writeMultipleCoils s vals) = .error (.badRange .addressOverflow)) ∧
    (vals.length ≤ 65535 → s + vals.length ≤ 65536 → vals.length > 1968 →
      encodeRequest (.writeMultipleCoils s vals) = .error .countTooBigForType) := by
  have h := ClientPdu.encode_eq (.writeMultipleCoils s vals) trivial
  refine ⟨fun h0 => ?_, fun h0 => ?_, fun h0 h1 h2 => ?_, fun hu h0 h1 => ?_⟩ <;> rw [h]
  · simp [rejection, h0]
  · simp [rejection, h0]
  · simp [rejection, Nat.not_lt.2 h1, Nat.ne_of_gt h0, h2]
  · simp [rejection, Nat.not_lt.2 hu, Nat.ne_of_gt (Nat.zero_lt_of_lt h1), Nat.not_lt.2 h0, h1]

theorem write_multiple_registers_errors (s : Nat) (vals : List Nat) :
    (vals.length > 65535 →
      encodeRequest (.writeMultipleRegisters s vals) = .error .countTooBigForU16) ∧
    (vals.length = 0 →
      encodeRequest (.writeMultipleRegisters s vals) = .error (.badRange .countOfZero)) ∧
    (0 < vals.length → vals.length ≤ 65535 → s + vals.length > 65536 →
      encodeRequest (.writeMultipleRegisters s vals) = .error (.badRange .addressOverflow)) ∧
    (vals.length ≤ 65535 → s + vals.length ≤ 65536 → vals.length > 123 →
      encodeRequest (.writeMultipleRegisters s vals) = .error .countTooBigForType) := by
  have h := ClientPdu.encode_eq (.writeMultipleRegisters s vals) trivial
  refine ⟨fun h0 => ?_, fun h0 => ?_, fun h0 h1 h2 => ?_, fun hu h0 h1 => ?_⟩ <;> rw [h]
  · simp [rejection, h0]
  · simp [rejection, h0]
  · simp [rejection, Nat.not_lt.2 h1, Nat.ne_of_gt h0, h2]
  · simp [rejection, Nat.not_lt.2 hu, Nat.ne_of_gt (Nat.zero_lt_of_lt h1), Nat.not_lt.2 h0, h1]

/-- the PDU the client produces is the protocol encoding of the request (no u16 hypothesis:
    success already implies that the quantity is in range) -/
theorem encode_eq_spec {req : ClientReq} {bytes : Bytes} (h : encodeRequest req = .ok bytes) :
    bytes = pdu req :=
  (ClientPdu.encode_ok_spec h).2

theorem encode_ok_valid {req : ClientReq} {bytes : Bytes} (hf : req.FieldsU16)
    (h : encodeRequest req = .ok bytes) : ClientValid req :=
  (encode_ok_iff req hf).1 ⟨bytes, h⟩

/-- the TCP/TLS frame is the MBAP encoding: tx id, protocol id 0, length = |PDU| + 1, unit, PDU -/
theorem mbap_frame_eq_spec {req : ClientReq} {bytes : Bytes} (tx unit : Nat)
    (h : encodeRequest req = .ok bytes) : Mbap.format tx unit bytes = adu false tx unit req := by
  rw [encode_eq_spec h]; simp [Mbap.format, adu, u16be, hi, lo]

/-- the serial frame is the RTU encoding: unit, PDU, CRC-16 low byte first -/
theorem rtu_frame_eq_spec {req : ClientReq} {bytes : Bytes} (tx unit : Nat)
    (h : encodeRequest req = .ok bytes) : Rtu.format unit bytes = adu true tx unit req := by
  rw [encode_eq_spec h]; simp [Rtu.format, adu, u16le, hi, lo]

theorem encode_len {req : ClientReq} {bytes : Bytes} (hf : req.FieldsU16)
    (h : encodeRequest req = .ok bytes) : bytes.length ≤ 253 :=
  ClientPdu.encode_len_le h

/-- no TCP/TLS frame longer than 260 bytes is ever emitted -/
theorem mbap_frame_len {req : ClientReq} {bytes : Bytes} (tx unit : Nat) (hf : req.FieldsU16)
    (h : encodeRequest req = .ok bytes) :
    (Mbap.format tx unit bytes).length ≤ Gen.mbapMaxFrameLength := by
  have := encode_len hf h
  rw [Mbap.format_length]; unfold Gen.mbapMaxFrameLength; omega

/-- no serial frame longer than 256 bytes is ever emitted -/
theorem rtu_frame_len {req : ClientReq} {bytes : Bytes} (unit : Nat) (hf : req.FieldsU16)
    (h : encodeRequest req = .ok bytes) :
    (Rtu.format unit bytes).length ≤ Gen.rtuMaxFrameLength := by
  have := encode_len hf h
  rw [Rtu.format_length]; unfold Gen.rtuMaxFrameLength; omega

/-- every transmitted PDU consists of bytes (in particular the byte-count field of a
    write-multiple request, `⌈n/8⌉` resp. `2n`, is at most 246: `calc_bytes_for_bits` /
    `calc_bytes_for_registers` cannot fail) -/
theorem encode_wf {req : ClientReq} {bytes : Bytes} (hf : req.FieldsU16)
    (h : encodeRequest req = .ok bytes) : Bytes.WF bytes := by
  obtain ⟨hr, rfl⟩ := ClientPdu.encode_ok_spec h
  exact ClientPdu.pdu_wf req hr

theorem mbap_frame_wf {req : ClientReq} {bytes : Bytes} (tx unit : Nat) (hu : unit < 256)
    (hf : req.FieldsU16) (h : encodeRequest req = .ok bytes) :
    Bytes.WF (Mbap.format tx unit bytes) :=
  Mbap.format_wf tx unit bytes hu (encode_wf hf h)

/-- The server's `Request::parse` reads a transmitted PDU back as the request the caller made:
    same function, same range / index / value, and the value vector of a write-multiple
    request survives packing (`unpackBits (packBits vals) vals.length = vals`). -/
theorem server_parses_client {req : ClientReq} {fcb : Nat} {body : Bytes} (hf : req.FieldsU16)
    (hv : req.ValuesU16) (h : encodeRequest req = .ok (fcb :: body)) :
    fcb = req.fc.toByte ∧ parseRequest req.fc body = some (toServer req) := by
  have hs := encode_eq_spec h
  rw [ClientPdu.pdu_head req] at hs
  injection hs with h1 h2
  subst h1 h2
  exact ⟨rfl, ClientPdu.parse_pdu req (encode_ok_valid hf h) hv⟩

theorem encode_head {req : ClientReq} {bytes : Bytes} (h : encodeRequest req = .ok bytes) :
    ∃ body, bytes = req.fc.toByte :: body := by
  rw [encode_eq_spec h]; exact ⟨_, ClientPdu.pdu_head req⟩

theorem coils_roundtrip (vals : List Bool) : unpackBits (packBits vals) vals.length = vals :=
  unpackBits_packBits vals

theorem registers_roundtrip (vals : List Nat) (h : ∀ v ∈ vals, v < 65536) :
    unpackRegs (packRegs vals) = vals :=
  unpackRegs_packRegs vals h

theorem packed_bit (vals : List Bool) (i : Nat) : bitAt (packBits vals) i = vals.getD i false :=
  bitAt_packBits vals i

/-- the constants are the ones of the Rust sources (generated tables) -/
theorem limits_agree :
    MAX_READ_COILS_COUNT = Gen.maxReadCoils ∧ MAX_READ_REGISTERS_COUNT = Gen.maxReadRegisters ∧
    MAX_WRITE_COILS_COUNT = Gen.maxWriteCoils ∧ MAX_WRITE_REGISTERS_COUNT = Gen.maxWriteRegisters ∧
    COIL_ON = Gen.coilOn ∧ COIL_OFF = Gen.coilOff ∧ Gen.errorMask = 128 ∧
    Gen.maxAduLength = 253 ∧ Gen.mbapMaxFrameLength = 260 ∧ Gen.rtuMaxFrameLength = 256 := by
  decide

theorem function_codes_agree : ∀ p ∈ Gen.fcValue, p.1.toByte = p.2 := by decide

/-- the largest read of coils: 2000 = 0x07D0 -/
example : encodeRequest (.readCoils 0 2000) = .ok [1, 0, 0, 0x07, 0xD0] := by decide +kernel
example : encodeRequest (.readCoils 63536 2000) = .ok [1, 0xF8, 0x30, 0x07, 0xD0] := by decide +kernel
example : encodeRequest (.readCoils 0 2001) = .error (.badRange .countTooLargeForType) := by decide +kernel
example : encodeRequest (.readCoils 63537 2000) = .error (.badRange .addressOverflow) := by decide +kernel
example : encodeRequest (.readCoils 65535 2) = .error (.badRange .addressOverflow) := by decide +kernel
example : encodeRequest (.readInputRegisters 7 0) = .error (.badRange .countOfZero) := by decide +kernel
example : encodeRequest (.readHoldingRegisters 0 126) = .error (.badRange .countTooLargeForType) := by
  decide +kernel
example : encodeRequest (.writeSingleCoil 0xAC true) = .ok [5, 0, 0xAC, 0xFF, 0] := by decide +kernel
example : encodeRequest (.writeSingleRegister 1 0xCAFE) = .ok [6, 0, 1, 0xCA, 0xFE] := by decide +kernel
/-- 10 coils in two bytes, LSB first, 6 padding bits (the example of the Modbus specification) -/
example : encodeRequest (.writeMultipleCoils 0x13
      [true, false, true, true, false, false, true, true, true, false]) =
    .ok [15, 0, 0x13, 0, 10, 2, 0xCD, 0x01] := by
  decide +kernel
example : encodeRequest (.writeMultipleRegisters 1 [0x000A, 0x0102]) =
    .ok [16, 0, 1, 0, 2, 4, 0, 0x0A, 1, 2] := by decide +kernel
/-- the first quantities beyond the limits, which would still fit the frame buffer -/
example : encodeRequest (.writeMultipleCoils 0 (List.replicate 1969 true)) =
    .error .countTooBigForType := by
  decide +kernel
example : encodeRequest (.writeMultipleRegisters 0 (List.replicate 124 0)) =
    .error .countTooBigForType := by
  decide +kernel
example : ClientValid (.writeMultipleCoils 0 (List.replicate 1968 true)) := by decide +kernel
example : (pdu (.writeMultipleCoils 0 (List.replicate 1968 true))).length = 252 := by decide +kernel
example : (pdu (.writeMultipleRegisters 0 (List.replicate 123 7))).length = 252 := by decide +kernel
example : ¬ ClientValid (.readCoils 65535 2) := by decide +kernel
example : adu false 0x0007 0x2A (.readHoldingRegisters 0x6B 3) =
    [0, 7, 0, 0, 0, 6, 0x2A, 3, 0, 0x6B, 0, 3] := by decide +kernel
/-- an RTU frame: the test vector of serial/frame.rs (CRC 0x197A, low byte first) -/
example : adu true 0 0x2A (.readCoils 0x10 0x13) =
    [0x2A, 1, 0, 0x10, 0, 0x13, 0x7A, 0x19] := by decide +kernel

end Rodbus.C03
