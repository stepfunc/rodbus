import RodbusModel.Lemmas.ClientMeaning
import RodbusModel.Lemmas.ClientDrain
import RodbusModel.Gen.Tables
/-
  C10  Every client request completes exactly once, under every interleaving of replies, errors,
  timeouts, disable, reconnect, shutdown and handle drop; none is lost, completed twice or left
  pending forever.  The error tells what happened.

  Model: Model/Client.lean (`runState F (State.init F cap maxTo d coins) steps`: any framing, queue
  capacity, timeout limit, decode level, any resolution `coins` of the `tokio::select!` polling
  order, any script of submissions (future / callback / try-send style), commands, handle
  operations, phases, peer deliveries, transport errors, clock movements and the abort of the task).
  The model is abstracted to the transition system `Reach` / `TEff` (task and clock) / `UEff`
  (script) of Lemmas/ClientCore.lean; `model_refines` below is the refinement theorem.
-/
namespace Rodbus.Client

/-- Refinement: every state of every run of the model is a reachable state of the abstract
    transition system, one tick of the task is one `TEff`, the direct effect of a script step one
    `UEff`, and the clock moves by `TEff.time`. -/
theorem model_refines {σ : Type} (F : Framing σ) :
    (∀ cap maxTo d coins steps, Reach (core (runState F (State.init F cap maxTo d coins) steps)))
      ∧ (∀ s t : State σ, tick F s = some t → TEff (core s) (core t))
      ∧ (∀ (s : State σ) st, UEff (core s) (core (applyStep s st)))
      ∧ (∀ (s : State σ) target, TEff (core s) (core (moveClock s target))) :=
  ⟨runState_reach F, tick_eff F, applyStep_eff, moveClock_eff⟩

/-- In every reachable state and for every request id: the number of its completions in the log,
    plus the number of times it is queued, plus the number of times it is in flight, equals the
    number of times it was accepted.  Nothing is lost and nothing is invented, under every
    interleaving. -/
theorem pending_partition {σ : Type} (F : Framing σ) (cap maxTo : Nat) (d : Decode)
    (coins : List Bool) (steps : List Step) (s : State σ)
    (hs : s = runState F (State.init F cap maxTo d coins) steps) (rid : Rid) :
    (doneIds s.log).count rid + (queueIds s.queue).count rid + (inflightIds s.pos).count rid
      = s.accepted.count rid :=
  bal_reach _ (reach_of_eq hs) rid

theorem accepted_count_one {σ : Type} (F : Framing σ) (cap maxTo : Nat) (d : Decode)
    (coins : List Bool) (steps : List Step) (h : (scriptRids steps).Nodup) (s : State σ)
    (hs : s = runState F (State.init F cap maxTo d coins) steps) (rid : Rid)
    (hm : rid ∈ s.accepted) : s.accepted.count rid = 1 :=
  (List.Nodup.count (hs ▸ accepted_nodup F cap maxTo d coins steps h)).trans (if_pos hm)

/-- No request is completed twice (and a request that is still queued or in flight has not been
    completed at all). -/
theorem never_completed_twice {σ : Type} (F : Framing σ) (cap maxTo : Nat) (d : Decode)
    (coins : List Bool) (steps : List Step) (h : (scriptRids steps).Nodup) (s : State σ)
    (hs : s = runState F (State.init F cap maxTo d coins) steps) (rid : Rid) :
    (doneIds s.log).count rid + (queueIds s.queue).count rid + (inflightIds s.pos).count rid ≤ 1 := by
  have h1 := pending_partition F cap maxTo d coins steps s hs rid
  have h2 := List.nodup_iff_count.mp (hs ▸ accepted_nodup F cap maxTo d coins steps h) rid
  omega

/-- Whenever nothing is queued and nothing is in flight (the task is gone; or it is still there, all
    handles dropped and the queue emptied, or simply nothing pending) every accepted request has
    been completed exactly as often as it was accepted. -/
theorem drained_exactly_once {σ : Type} (F : Framing σ) (cap maxTo : Nat) (d : Decode)
    (coins : List Bool) (steps : List Step) (s : State σ)
    (hs : s = runState F (State.init F cap maxTo d coins) steps) (rid : Rid)
    (hq : queueIds s.queue = []) (hp : inflightIds s.pos = []) :
      (doneIds s.log).count rid = s.accepted.count rid := by
  have := pending_partition F cap maxTo d coins steps s hs rid
  rw [hq, hp] at this
  simpa using this

/-- Once the task is gone nothing is queued or in flight, and every accepted request has been
    completed exactly as often as it was accepted: exactly once for a script with distinct ids. -/
theorem closed_trace_exactly_once {σ : Type} (F : Framing σ) (cap maxTo : Nat) (d : Decode)
    (coins : List Bool) (steps : List Step) (s : State σ)
    (hs : s = runState F (State.init F cap maxTo d coins) steps) (hdead : s.alive = false) :
      s.queue = [] ∧ s.pos = .noPhase
        ∧ (∀ rid, (doneIds s.log).count rid = s.accepted.count rid)
        ∧ ((scriptRids steps).Nodup → ∀ rid ∈ s.accepted, (doneIds s.log).count rid = 1) := by
  obtain ⟨hq, hp⟩ : s.queue = [] ∧ s.pos = .noPhase := (tidy_reach _ (reach_of_eq hs)).gone hdead
  have hall := fun rid => drained_exactly_once F cap maxTo d coins steps s hs rid
    (by rw [hq]; rfl) (by rw [hp]; rfl)
  exact ⟨hq, hp, hall, fun hnd rid hmem =>
    (hall rid).trans (accepted_count_one F cap maxTo d coins steps hnd s hs rid hmem)⟩

/-- From every reachable state in which the task is between phases (alive, no phase running, none
    scheduled: e.g. after a session has ended for whatever reason),
    a finite sequence of steps that needs no cooperation from the peer or the user, namely as many
    rounds "`fail_requests_for(1 ms)`, 1 ms passes" as there are queued commands (the channel
    tasks of the library perform these phases on their own after a lost connection), completes
    every pending request: afterwards nothing is queued, nothing is in flight, nothing new was
    accepted and every accepted request has its completion.

    The full statement — the same from EVERY reachable state in which the task is alive, also while
    a phase is running — is `drain_completes` in Props/C10Drain.lean (proved with a termination
    measure over queue, phases, unread transport bytes, parser state and position; the framing
    hypothesis `Consuming` is proved for MBAP and RTU); here the continuation is explicit. -/
theorem drain_completes_partial {σ : Type} (F : Framing σ) (cap maxTo : Nat) (d : Decode)
    (coins : List Bool) (steps : List Step) (s : State σ)
    (hs : s = runState F (State.init F cap maxTo d coins) steps)
    (hidle : s.alive = true ∧ s.pos = .noPhase ∧ s.phases = []) :
    ∃ more : List Step, (∀ st ∈ more, st = .failFor 1 ∨ st = .advance 1) ∧
      ∀ s', s' = runState F (State.init F cap maxTo d coins) (steps ++ more) →
        s'.queue = [] ∧ s'.pos = .noPhase ∧ s'.accepted = s.accepted
          ∧ ∀ rid, (doneIds s'.log).count rid = s.accepted.count rid := by
  refine ⟨drainSteps s.queue.length, drainSteps_kind _, fun s' hs' => ?_⟩
  have e : s' = runState F s (drainSteps s.queue.length) := by rw [hs', runState_append, ← hs]
  obtain ⟨⟨_, hp, _⟩, hq⟩ := drain_idle F s.queue.length s hidle (Nat.le_refl _)
  have hacc := drain_accepted F s.queue.length s
  rw [← e] at hp hq hacc
  exact ⟨hq, hp, hacc, fun rid => hacc ▸
    drained_exactly_once F cap maxTo d coins _ s' hs' rid (by rw [hq]; rfl) (by rw [hp]; rfl)⟩

/-- `noconn` is only produced while the channel is not connected: the task is in
    `wait_for_enabled` or `fail_requests_for`, and the request is the one at the head of the queue. -/
theorem error_meaning_noconn {c c' : Core} (t : TEff c c') (rid : Rid) (st : Style) (time : Nat)
    (h : LogEntry.done rid st .noConn time ∈ c'.log) :
    LogEntry.done rid st .noConn time ∈ c.log
      ∨ (c.alive = true ∧ (c.pos = .waitEnabled ∨ ∃ dl b, c.pos = .failFor dl b) ∧ time = c.now
          ∧ ∃ r q, c.queue = .req r :: q ∧ r.rid = rid) := by
  rcases teff_new_done c c' t _ rfl h with h | ⟨r, res, he, hn⟩
  · exact Or.inl h
  · cases he
    cases hn with
    | noConn q _ ha hp hq => exact .inr ⟨ha, hp, rfl, r, q, hq, rfl⟩
    | dequeue m q ha hp hq hres hk => exact absurd rfl (dequeueRes_ne hres).1
    | finish m tx dl ha hp ht h3 h4 hk => exact absurd rfl h3

/-- `timeout` is only produced for the request in flight, at the instant of its deadline. -/
theorem error_meaning_timeout {c c' : Core} (hr : Reach c) (t : TEff c c') (rid : Rid)
    (st : Style) (time : Nat) (h : LogEntry.done rid st .timeout time ∈ c'.log) :
    LogEntry.done rid st .timeout time ∈ c.log
      ∨ ∃ m r tx dl, c.pos = .inflight m r tx dl ∧ r.rid = rid ∧ c.now = dl ∧ time = dl := by
  rcases teff_new_done c c' t _ rfl h with h | ⟨r, res, he, hn⟩
  · exact Or.inl h
  · cases he
    cases hn with
    | noConn q hres ha hp hq => cases hres
    | dequeue m q ha hp hq hres hk => exact absurd rfl (dequeueRes_ne hres).2.2
    | finish m tx dl ha hp ht h3 h4 hk =>
      have hle := ht rfl
      have hge := (tidy_reach c hr).deadline hp
      exact .inr ⟨m, r, tx, dl, hp, rfl, by omega, by omega⟩

/-- An I/O or framing error is only produced by the transport event itself (for the request just
    taken from the queue: a failed write, or a framing error in the bytes that were buffered before
    it; for the request in flight: a read or framing error), and the same step ends the session
    with that error. -/
theorem error_meaning_transport {c c' : Core} (t : TEff c c') (rid : Rid) (st : Style)
    (res : Res) (k : EndKind) (time : Nat) (hk : res.sessionEnd = some k)
    (h : LogEntry.done rid st res time ∈ c'.log) :
    LogEntry.done rid st res time ∈ c.log
      ∨ (time = c.now ∧ c'.pos = .noPhase ∧ LogEntry.fin k c.now ∈ c'.log
          ∧ ((∃ m r tx dl, c.pos = .inflight m r tx dl ∧ r.rid = rid)
              ∨ ((res = .io .pipe ∨ ∃ e, res = frameErrRes e)
                  ∧ ∃ m r q, c.pos = .idle m ∧ c.queue = .req r :: q ∧ r.rid = rid))) := by
  rcases teff_new_done c c' t _ rfl h with h | ⟨r, res', he, hn⟩
  · exact Or.inl h
  · cases he
    cases hn with
    | noConn q hres ha hp hq => subst hres; cases hk
    | dequeue m q ha hp hq hres hend =>
      obtain ⟨e1, e2⟩ := hend k hk
      refine .inr ⟨rfl, e1, e2, .inr ⟨?_, m, r, q, hp, hq, rfl⟩⟩
      rcases hres with ⟨e, h⟩ | h | h
      · subst h; cases hk
      · exact Or.inl h
      · exact Or.inr h
    | finish m tx dl ha hp ht h3 h4 hend =>
      obtain ⟨e1, e2⟩ := hend k hk
      exact .inr ⟨rfl, e1, e2, .inl ⟨m, r, tx, dl, hp, rfl⟩⟩

/-- The task itself never completes a request with `shutdown`: while it runs, requests end with a
    reply, an exception, a validation error, a transport error, a timeout or `noconn`. -/
theorem error_meaning_shutdown_task {c c' : Core} (t : TEff c c') (rid : Rid) (st : Style)
    (time : Nat) (h : LogEntry.done rid st .shutdown time ∈ c'.log) :
    LogEntry.done rid st .shutdown time ∈ c.log := by
  rcases teff_new_done c c' t _ rfl h with h | ⟨r, res, he, hn⟩
  · exact h
  · cases he
    cases hn with
    | noConn q hres ha hp hq => cases hres
    | dequeue m q ha hp hq hres hk => exact absurd rfl (dequeueRes_ne hres).2.1
    | finish m tx dl ha hp ht h3 h4 hk => exact absurd rfl h4


/-- `error_meaning` for `shutdown`, the script's side.  A script step by itself completes a request
    with `shutdown` only when the task is being dropped (`abort`) or is already gone, EXCEPT in the
    try-send style of `FfiChannel` while the task is alive: a full queue drops the command
    (finding F10, open).  (Together with `error_meaning_shutdown_task` this covers every source of
    `shutdown`.)

    Full statement that does NOT hold for the code: "`shutdown` only when the task is gone or the
    queue is closed".  The exclusion is the last disjunct; the `example` below is a concrete
    witness. -/
theorem error_meaning_shutdown_partial {σ : Type} (s : State σ) (st : Step) (rid : Rid)
    (sty : Style) (time : Nat)
    (h : LogEntry.done rid sty .shutdown time ∈ (applyStep s st).log) :
    LogEntry.done rid sty .shutdown time ∈ s.log
      ∨ st = .abort
      ∨ s.alive = false
      ∨ ∃ hd r, st = .submit .T hd r ∧ s.cap ≤ s.queue.length := by
  have ha := applyStep_cases s st
  generalize applyStep s st = t at ha h
  cases ha with
  | quiet | acceptQueue | enqueueCmd => exact .inl h
  | note st e he => exact .inl (mem_of_done_cons rfl (isNote_isDone he) h)
  | abort => exact .inr (.inl rfl)
  | acceptDone op hd r res extra hx hres =>
    rcases hres with ⟨e', rfl⟩ | ⟨rfl, hal | ⟨rfl, hfull⟩⟩
    · refine .inl ?_
      rcases hx with rfl | ⟨e, rfl⟩
      · exact (List.mem_cons.mp h).resolve_left (by simp)
      · exact (List.mem_cons.mp (mem_of_done_cons rfl rfl h)).resolve_left (by simp)
    · exact .inr (.inr (.inl hal))
    · exact .inr (.inr (.inr ⟨hd, r, rfl, hfull⟩))

/-- the Rust variant of a request result -/
def Res.variant : Res → String
  | .ok _ => "Ok"
  | .exc _ => "Exception"
  | .badResp => "BadResponse"
  | .badReq _ => "BadRequest"
  | .bf _ => "BadFrame"
  | .io _ => "Io"
  | .internal => "Internal"
  | .timeout => "ResponseTimeout"
  | .noConn => "NoConnection"
  | .shutdown => "Shutdown"

/-- `SessionError::from_request_err` (its arms are regenerated from the Rust source on every run):
    a request result ends the session exactly when the table lists its variant — I/O errors and bad
    frames, nothing else (in particular not a timeout, an exception or a bad response). -/
theorem session_ending_table_correct (r : Res) :
    r.sessionEnd.isSome = (Gen.sessionEnding.lookup r.variant).isSome := by
  cases r <;> simp only [Res.sessionEnd, Res.variant, Option.isSome_some, Option.isSome_none] <;> decide

namespace Example

/-- the witness for the exclusion of `error_meaning_shutdown_partial`
    (finding F10): with one request queued (capacity 1), a second try-send submission is refused
    with `full` and its callback completes with `shutdown` although the task is alive. -/
example :
    let s := runState mbap s1 [.submit .T 0 (rc "a" .trySend 10), .submit .T 0 (rc "b" .trySend 10)]
    s.alive = true ∧ s.log = [.sub "b" .full, .done "b" .trySend .shutdown 0] := by decide +kernel

/-- `FfiChannel::read_holding_registers` with 126 registers and `read_coils` with 2001 coils both
    complete the callback with the range error they return (the subject of finding F9b) -/
example :
    (runState mbap s16 [.submit .T 0 ⟨"a", .trySend, 1, 10, .readHoldingRegisters 0 126⟩,
                        .submit .T 0 ⟨"b", .trySend, 1, 10, .readCoils 0 2001⟩]).log
      = [.sub "b" (.badReq (.badRange .countTooLargeForType)),
         .done "b" .trySend (.badReq (.badRange .countTooLargeForType)) 0,
         .sub "a" (.badReq (.badRange .countTooLargeForType)),
         .done "a" .trySend (.badReq (.badRange .countTooLargeForType)) 0] := by decide +kernel

/-- a run in which every kind of accounting occurs: a reply, a timeout, `noconn`, a request still
    queued and one in flight -/
example :
    let s := runState mbap s16
      [.newSession, .submit .R 0 (rc "a" .future 1000),
       .rx (.data [0, 0, 0, 0, 0, 4, 1, 1, 1, 0x55]),
       .submit .C 0 (rc "b" .callback 10), .advance 10,
       .disable 0, .waitEnabled, .submit .R 0 (rc "c" .future 10),
       .enable 0, .newSession, .submit .R 0 (rc "d" .future 10), .submit .T 0 (rc "e" .trySend 10)]
    doneIds s.log = ["c", "b", "a"] ∧ queueIds s.queue = ["e"] ∧ inflightIds s.pos = ["d"]
      ∧ s.accepted = ["e", "d", "c", "b", "a"] := by decide +kernel

/-- abort: the request in flight and the queued ones complete with `shutdown`; later submissions
    too; afterwards everything accepted is completed exactly once -/
example :
    let s := runState mbap s16
      [.newSession, .submit .R 0 (rc "a" .future 1000), .submit .C 0 (rc "b" .callback 10),
       .abort, .submit .R 0 (rc "c" .future 10)]
    s.alive = false
      ∧ s.log = [.done "c" .future .shutdown 0, .done "b" .callback .shutdown 0,
                 .done "a" .future .shutdown 0, .tx [0, 0, 0, 0, 0, 6, 1, 1, 0, 0, 0, 8]]
      ∧ ∀ rid ∈ s.accepted, (doneIds s.log).count rid = 1 := by decide +kernel

/-- a transport error fails the request in flight with that error and ends the session -/
example :
    (runState mbap s16 [.newSession, .submit .R 0 (rc "a" .future 1000), .rx .err]).log
      = [.fin (.io .reset) 0, .done "a" .future (.io .reset) 0,
         .tx [0, 0, 0, 0, 0, 6, 1, 1, 0, 0, 0, 8]] := by decide +kernel

/-- `drain_completes_partial` is not vacuous: a session has ended with `maxto1`, two requests are
    still queued; two rounds complete them with `noconn` -/
example :
    let s := runState mbap (State.init mbap 16 1 ⟨0, 0, 0⟩ [])
      [.newSession, .submit .R 0 (rc "a" .future 10), .submit .C 0 (rc "b" .callback 10),
       .submit .R 0 (rc "c" .future 10), .advance 10]
    (s.alive = true ∧ s.pos = .noPhase ∧ s.phases = []) ∧ queueIds s.queue = ["b", "c"]
      ∧ doneIds (runState mbap s (drainSteps 2)).log = ["c", "b", "a"] := by decide +kernel

end Example

end Rodbus.Client
