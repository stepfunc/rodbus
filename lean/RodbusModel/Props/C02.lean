import RodbusModel.Props.C01
/-
  C02  Handlers see only valid, correctly decoded requests, and each exactly once.

  "Handler call" = a `Call` with `isAuth = false` (the eight `RequestHandler` callbacks); the
  authorization questions are the subject of C08.
-/
namespace Rodbus.C02
open Rodbus Rodbus.Spec.Server

/-- Every handler call made while handling a frame is justified: the frame is a valid request
    (`C01.request_of_frame`) that the authorization handler (if any) allowed, and the call is the
    write it denotes for the addressed, configured unit, or a read of an address inside its range
    on that unit, or — an RTU broadcast of a write — that write for a configured unit. -/
theorem calls_justified {σ : Type} (cfg : ServerCfg σ) (hs : List (Nat × σ)) (f : Frame) (c : Call)
    (hc : c ∈ (handleFrame cfg hs f).calls) (hna : c.isAuth = false) :
    ∃ req, requestOf f = some req ∧ cfg.allows f.dest req = true ∧
      ((isBroadcast cfg f = false ∧ f.dest ∈ hs.map Prod.fst ∧
          ((isWrite req = true ∧ c ∈ writeCalls req f.dest) ∨
           (∃ fc r a, fc.isRead = true ∧ req = mkRead fc r ∧ c = readCall fc f.dest a
              ∧ r.start ≤ a ∧ a < r.start + r.count)))
       ∨ (isBroadcast cfg f = true ∧ isWrite req = true
            ∧ ∃ u ∈ hs.map Prod.fst, c ∈ writeCalls req u)) := by
  have hq : ∀ req, c ∉ cfg.question f.dest req := fun req h => by
    have := question_isAuth cfg f.dest req c h; rw [hna] at this; cases this
  have h := handleFrame_handled cfg hs f
  generalize handleFrame cfg hs f = o at h hc
  cases h with
  | rejected => cases hc
  | denied req | ignored req => exact absurd hc (hq req)
  | broadcast req hreq ha hb hw =>
    rcases List.mem_append.1 hc with hc | hc
    · exact absurd hc (hq req)
    · exact ⟨req, hreq, ha, .inr ⟨hb, hw, List.mem_flatMap.1 hc⟩⟩
  | served req s hreq ha hb hl =>
    rcases List.mem_append.1 hc with hc | hc
    · exact absurd hc (hq req)
    · refine ⟨req, hreq, ha, .inl ⟨hb, (lookupUnit_isSome_iff hs f.dest).1 (by simp [hl]), ?_⟩⟩
      cases hw : isWrite req with
      | true => left; rw [serve_write _ _ _ _ hw] at hc; exact ⟨rfl, hc⟩
      | false =>
        right
        obtain ⟨r, hr, hfc⟩ := read_eq_mkRead req hw
        rw [hr] at hc
        obtain ⟨a, rfl, h1, h2⟩ := serve_read_calls_mem _ _ _ _ _ hfc c hc
        exact ⟨req.fc, r, a, hfc, hr, rfl, h1, h2⟩

/-- a decoded request respects the limits of the protocol -/
theorem decoded_request_in_limits (f : Frame) (req : Request) (h : requestOf f = some req) :
    req.InLimits :=
  requestOf_inLimits h

/-- …and, the PDU being bytes, every single-write address and every register value is a u16 -/
theorem decoded_request_fits_u16 (f : Frame) (req : Request) (h : requestOf f = some req)
    (hw : Bytes.WF f.pdu) : req.FitsU16 := by
  obtain ⟨b, body, fc, hp, _, hv, rfl⟩ := (requestOf_some_iff f req).1 h
  rw [hp] at hw
  exact decode_fitsU16 (Bytes.WF_cons.1 hw).2

/-- the frame is not a request (hence reaches no handler) iff it is empty, its function code is
    unknown, or its body invalid -/
theorem not_a_request_iff (f : Frame) :
    requestOf f = none ↔
      f.pdu = [] ∨ ∃ b body, f.pdu = b :: body ∧
        (Fc.ofByte b = none ∨ ∃ fc, Fc.ofByte b = some fc ∧ validBody fc body = false) := by
  constructor
  · intro h
    unfold requestOf at h
    cases hp : f.pdu with
    | nil => exact .inl rfl
    | cons b body =>
      refine .inr ⟨b, body, rfl, ?_⟩
      cases hfc : Fc.ofByte b with
      | none => exact .inl rfl
      | some fc => exact .inr ⟨fc, rfl, by simpa [hp, hfc] using h⟩
  · rintro (hp | ⟨b, body, hp, hfc | ⟨fc, hfc, hv⟩⟩) <;> simp [requestOf, *]

/-- a valid, permitted write to a configured unit: the calls are the authorization question (if
    any) followed by exactly one handler call, the write for that unit -/
theorem write_once {σ : Type} (cfg : ServerCfg σ) (hs : List (Nat × σ)) (f : Frame) (req : Request)
    (s : σ) (hreq : requestOf f = some req) (hw : isWrite req = true)
    (hb : isBroadcast cfg f = false) (hl : lookupUnit hs f.dest = some s)
    (ha : cfg.allows f.dest req = true) :
    (handleFrame cfg hs f).calls = cfg.question f.dest req ++ writeCalls req f.dest
      ∧ (writeCalls req f.dest).length = 1 := by
  rw [C01.served cfg hs f req s hreq hb hl ha, serve_write _ _ _ _ hw]
  refine ⟨rfl, ?_⟩
  cases req <;> first | rfl | simp [isWrite] at hw

/-- a valid, permitted RTU broadcast write: exactly one write call per configured unit, in the
    order of the unit map (ascending unit id for the `BTreeMap` of the implementation) -/
theorem write_once_broadcast {σ : Type} (cfg : ServerCfg σ) (hs : List (Nat × σ)) (f : Frame)
    (req : Request) (hreq : requestOf f = some req) (hw : isWrite req = true)
    (hb : isBroadcast cfg f = true) (ha : cfg.allows f.dest req = true) :
    (handleFrame cfg hs f).calls
      = cfg.question f.dest req ++ (hs.map Prod.fst).flatMap (writeCalls req) := by
  rw [handleFrame_broadcast_write cfg hs f hreq ha hb hw]

/-- what is handed over: single writes carry the decoded address and value; multiple writes the
    decoded range and the items `(start + i, vᵢ)` -/
theorem write_call_shape (u i : Nat) (b : Bool) (v : Nat) (r : Range) (bs : List Bool)
    (vs : List Nat) :
    writeCalls (.writeSingleCoil i b) u = [.writeSingleCoil u i b]
    ∧ writeCalls (.writeSingleRegister i v) u = [.writeSingleRegister u i v]
    ∧ writeCalls (.writeMultipleCoils r bs) u = [.writeMultipleCoils u r (indexed r.start bs)]
    ∧ writeCalls (.writeMultipleRegisters r vs) u = [.writeMultipleRegisters u r (indexed r.start vs)] :=
  ⟨rfl, rfl, rfl, rfl⟩

theorem write_items {α : Type} (start : Nat) (vs : List α) :
    (indexed start vs).length = vs.length ∧
      ∀ i (h : i < vs.length),
        (indexed start vs)[i]'(by rw [indexed_length]; exact h) = (start + i, vs[i]) :=
  ⟨indexed_length start vs, indexed_getElem start vs⟩

/-- the values of a decoded multiple write, by position in the PDU: coil `i` is bit `i % 8` of
    payload byte `i / 8`, register `i` the big-endian word at body offset `5 + 2i`; there are
    exactly `quantity` of them -/
theorem write_multiple_decoding (body : Bytes) :
    decode .writeMultipleCoils body
      = .writeMultipleCoils ⟨u16At body 0, u16At body 2⟩
          ((List.range (u16At body 2)).map fun i => bitOf (body.drop 5) i)
    ∧ decode .writeMultipleRegisters body
      = .writeMultipleRegisters ⟨u16At body 0, u16At body 2⟩
          ((List.range (u16At body 2)).map fun i => u16At body (5 + 2 * i)) :=
  ⟨rfl, rfl⟩

/-- A valid, permitted read of a configured unit queries `start, start + 1, …`: the whole range if
    every address is readable, otherwise up to and including the first address that raises — and
    nothing after it. -/
theorem reads_ascending_prefix {σ : Type} (cfg : ServerCfg σ) (hs : List (Nat × σ)) (f : Frame)
    (fc : Fc) (r : Range) (s : σ) (hr : fc.isRead = true)
    (hreq : requestOf f = some (mkRead fc r)) (hb : isBroadcast cfg f = false)
    (hl : lookupUnit hs f.dest = some s) (ha : cfg.allows f.dest (mkRead fc r) = true) :
    ((∀ i < r.count, cfg.H.readErr fc s (r.start + i) = none) ∧
      (handleFrame cfg hs f).calls = cfg.question f.dest (mkRead fc r) ++
        (List.range r.count).map fun i => readCall fc f.dest (r.start + i))
    ∨ ∃ k e, k < r.count ∧ cfg.H.readErr fc s (r.start + k) = some e
        ∧ (∀ i < k, cfg.H.readErr fc s (r.start + i) = none)
        ∧ (handleFrame cfg hs f).calls = cfg.question f.dest (mkRead fc r) ++
            (List.range (k + 1)).map fun i => readCall fc f.dest (r.start + i) := by
  rw [C01.served cfg hs f _ s hreq hb hl ha, serve_read _ _ _ _ _ hr]
  have h := firstErr_spec (fun i => cfg.H.readErr fc s (r.start + i)) r.count
  generalize firstErr _ r.count = ff at h ⊢
  cases ff with
  | none => exact .inl ⟨h, rfl⟩
  | some p => exact .inr ⟨p.1, p.2, h.1, h.2.1, h.2.2, rfl⟩

/-- a list `start, start + 1, …` has no repetition.  With `readCall_injective` and the shape of the
    calls in `reads_ascending_prefix` this is "no address is asked twice"; that composition is not
    stated as a theorem. -/
theorem read_addresses_distinct (start m : Nat) : ((List.range m).map (start + ·)).Nodup := by
  unfold List.Nodup
  rw [List.pairwise_map]
  exact (List.pairwise_lt_range).imp (by intro a b h; omega)

theorem readCall_injective (fc : Fc) (u a a' : Nat) (h : readCall fc u a = readCall fc u a') :
    a = a' := by
  cases fc <;> simp only [readCall] at h <;> injection h

/-- An empty / unknown-function / invalid frame, a frame for an unconfigured unit, and a denied
    request cause no handler call (at most the authorization question) and change no state. -/
theorem invalid_no_effect {σ : Type} (cfg : ServerCfg σ) (hs : List (Nat × σ)) (f : Frame)
    (h : requestOf f = none
      ∨ (isBroadcast cfg f = false ∧ lookupUnit hs f.dest = none)
      ∨ (∃ req, requestOf f = some req ∧ cfg.allows f.dest req = false)) :
    (∀ c ∈ (handleFrame cfg hs f).calls, c.isAuth = true) ∧ (handleFrame cfg hs f).states = hs := by
  have hh := handleFrame_handled cfg hs f
  generalize handleFrame cfg hs f = o at hh
  cases hh with
  | rejected => exact ⟨by simp, rfl⟩
  | denied req | ignored req => exact ⟨question_isAuth cfg f.dest req, rfl⟩
  | broadcast req hreq ha hb | served req s hreq ha hb hl => simp_all

/-- read requests never change any handler state (unit ids being unique, as in a `BTreeMap`) -/
theorem reads_no_state_change {σ : Type} (cfg : ServerCfg σ) (hs : List (Nat × σ)) (f : Frame)
    (req : Request) (hreq : requestOf f = some req) (hr : isWrite req = false)
    (hnd : (hs.map Prod.fst).Nodup) : (handleFrame cfg hs f).states = hs := by
  rcases handleFrame_read_states cfg hs f hreq hr with h | ⟨s, hl, h⟩
  · exact h
  · rw [h]; exact setUnit_eq_self (lookupUnit_unique hnd hl)

/-- without the uniqueness assumption: no unit's state, as seen through the map, changes -/
theorem reads_no_state_change_lookup {σ : Type} (cfg : ServerCfg σ) (hs : List (Nat × σ))
    (f : Frame) (req : Request) (hreq : requestOf f = some req) (hr : isWrite req = false)
    (u : Nat) : lookupUnit (handleFrame cfg hs f).states u = lookupUnit hs u := by
  rcases handleFrame_read_states cfg hs f hreq hr with h | ⟨s, hl, h⟩
  · rw [h]
  · rw [h, lookupUnit_setUnit]
    split
    · rename_i hu; subst hu; simp [hl]
    · rfl

open Demo

/-- the hypotheses of `write_once` hold for a single-coil write to unit 1 … -/
example : requestOf ⟨some 3, 1, writeCoil⟩ = some (.writeSingleCoil 1 true)
    ∧ isWrite (.writeSingleCoil 1 true) = true ∧ isBroadcast tcp ⟨some 3, 1, writeCoil⟩ = false
    ∧ lookupUnit units 1 = some db1 ∧ tcp.allows 1 (.writeSingleCoil 1 true) = true := by decide +kernel

/-- … and the handler is called exactly once with the decoded address and value -/
example : (handleFrame tcp units ⟨some 3, 1, writeCoil⟩).calls = [.writeSingleCoil 1 1 true] := by
  decide +kernel

/-- a multiple-register write hands over `(0, 0x0102), (1, 0x0304)` -/
example : (handleFrame tcp units ⟨some 3, 1, writeRegs⟩).calls
    = [.writeMultipleRegisters 1 ⟨0, 2⟩ [(0, 0x0102), (1, 0x0304)]] := by
  decide +kernel

/-- RTU broadcast of the same write: one call per unit, ascending -/
example : (handleFrame rtu units ⟨none, 0, writeCoil⟩).calls
    = [.writeSingleCoil 1 1 true, .writeSingleCoil 2 1 true]
    ∧ (handleFrame rtu units ⟨none, 0, writeCoil⟩).reply = none := by
  decide +kernel

/-- a read stops at the first failing address (register 3 of unit 1 does not exist) -/
example : (handleFrame tcp units ⟨some 3, 1, readRegsFail⟩).calls
    = [.readHoldingRegister 1 2, .readHoldingRegister 1 3] := by
  decide +kernel

/-- an invalid request (quantity 0) reaches no handler -/
example : requestOf ⟨some 3, 1, readZero⟩ = none
    ∧ (handleFrame tcp units ⟨some 3, 1, readZero⟩).calls = [] := by
  decide +kernel

example : (units.map Prod.fst).Nodup := by decide +kernel

/-- the byte well-formedness hypothesis of `decoded_request_fits_u16` is satisfiable -/
example : Bytes.WF (⟨some 3, 1, writeRegs⟩ : Frame).pdu := by decide +kernel

end Rodbus.C02
