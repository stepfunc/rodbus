import RodbusModel.Props.C14Serial
/-
  C13 for the serial client channel task (`SerialChannelTask::run`, Model/SerialLife.lean): the
  `PortState` listener always observes a legal path, for EVERY script of environment events (path
  appears / disappears, port lost, enable, disable, shutdown, every handle dropped); and why each
  state is announced (`wait_causes`, `open_causes`, `disabled_causes`).
-/
namespace Rodbus.C13Serial
open Rodbus.Retry Rodbus.SerialLife
open Rodbus.Spec.SerialLife (legalNext chain legalPath legalLog)
open Rodbus.C14Serial (EnInv init_enInv step_enInv reachable_enInv)

def lastOr : PortState → List PortState → PortState
  | a, [] => a
  | _, b :: rest => lastOr b rest

theorem chain_append (a : PortState) (l₁ l₂ : List PortState) :
    chain a (l₁ ++ l₂) = (chain a l₁ && chain (lastOr a l₁) l₂) := by
  induction l₁ generalizing a with
  | nil => simp [chain, lastOr]
  | cons b l ih => simp [chain, lastOr, ih, Bool.and_assoc]

theorem lastOr_append (a : PortState) (l₁ l₂ : List PortState) :
    lastOr a (l₁ ++ l₂) = lastOr (lastOr a l₁) l₂ := by
  induction l₁ generalizing a with
  | nil => rfl
  | cons b l ih => simp [lastOr, ih]

/-- the last announcement tells where the task is blocked -/
def Agrees : Phase → PortState → Prop
  | .idle, .disabled => True
  | .waiting, .wait _ => True
  | .session, .open_ => True
  | .finished, .shutdown => True
  | _, _ => False

/-- one event: what is announced may follow the last announcement, and the new last
    announcement tells where the task is now -/
theorem step_legal (s : S) (e : Ev) (a : PortState) (hi : EnInv s) (ha : Agrees s.phase a) :
    chain a (step s e).2 = true ∧ Agrees (step s e).1.phase (lastOr a (step s e).2) := by
  rcases s with ⟨en, r, pr, ph⟩
  -- by phase, last announcement and event; an open attempt splits once more on its outcome
  cases ph <;> cases a <;> simp only [Agrees] at ha <;> cases e <;>
    simp_all [EnInv, step, loopTop, tryOpen, finish, disabledNow, chain, legalNext, lastOr, Agrees] <;>
    split <;> simp_all [chain, legalNext, lastOr]

theorem outputs_legal (es : List Ev) : ∀ (s : S) (a : PortState), EnInv s → Agrees s.phase a →
    chain a (outputs s es) = true := by
  induction es with
  | nil => intros; rfl
  | cons e es ih =>
    intro s a hi ha
    obtain ⟨h1, h2⟩ := step_legal s e a hi ha
    simp only [outputs, chain_append, h1, Bool.true_and]
    exact ih _ _ (step_enInv s e hi) h2

theorem run_legalPath (mn mx : Nat) (script : List Ev) :
    legalPath (SerialLife.run mn mx script) = true :=
  outputs_legal _ _ _ (init_enInv mn mx) trivial

/-- `Disabled` first, every adjacent pair in `legalNext` (Open only after Disabled / Wait; Wait
    only after Disabled / Wait / Open; Disabled only after Wait / Open), `Shutdown` exactly once
    and last -/
theorem legal_port_path (mn mx : Nat) (script : List Ev) :
    legalLog (SerialLife.run mn mx script) = true := by
  obtain ⟨l, hl, hnot⟩ := C14Serial.shutdown_final mn mx script
  have hpath := run_legalPath mn mx script
  unfold legalLog
  rw [hpath, hl]
  simp [List.count_eq_zero.mpr hnot, List.getLast?_cons]

/-- `legal_port_path` without the Boolean packaging -/
theorem legal_port_path_spelled_out (mn mx : Nat) (script : List Ev) :
    (SerialLife.run mn mx script).head? = some .disabled ∧
    (∀ pre a b post, SerialLife.run mn mx script = pre ++ a :: b :: post → legalNext a b = true) ∧
    (∃ l, SerialLife.run mn mx script = l ++ [.shutdown] ∧ PortState.shutdown ∉ l) := by
  refine ⟨rfl, ?_, ?_⟩
  · intro pre a b post h
    have hpath := run_legalPath mn mx script
    rw [h] at hpath
    cases pre with
    | nil => simp [legalPath, chain] at hpath; exact hpath.1
    | cons c pre =>
      simp only [List.cons_append, legalPath, chain_append, Bool.and_eq_true] at hpath
      have := hpath.2
      simp only [chain, Bool.and_eq_true] at this
      -- `chain (lastOr c pre) (a :: b :: post)` = legalNext _ a && legalNext a b && …
      exact this.2.1
  · obtain ⟨l, hl, hnot⟩ := C14Serial.shutdown_final mn mx script
    refine ⟨.disabled :: l, by simp [hl], ?_⟩
    simp [hnot]

theorem open_only_after_disabled_or_wait (a : PortState) (h : legalNext a .open_ = true) :
    a = .disabled ∨ ∃ d, a = .wait d := by
  cases a <;> simp_all [legalNext]

theorem wait_only_after_disabled_wait_open (a : PortState) (d : Nat)
    (h : legalNext a (.wait d) = true) : a = .disabled ∨ (∃ d', a = .wait d') ∨ a = .open_ := by
  cases a <;> simp_all [legalNext]

theorem disabled_only_after_wait_or_open (a : PortState) (h : legalNext a .disabled = true) :
    (∃ d, a = .wait d) ∨ a = .open_ := by
  cases a <;> simp_all [legalNext]

theorem nothing_after_shutdown (b : PortState) : legalNext .shutdown b = false := by
  cases b <;> rfl

/-- `Open` and `Wait` are announced only while the channel is enabled (every reachable state
    satisfies `EnInv`: `C14Serial.reachable_enInv`) -/
theorem attempt_only_enabled (s : S) (e : Ev) (hi : EnInv s) (p : PortState)
    (hp : p ∈ (step s e).2) (hk : p = .open_ ∨ ∃ d, p = .wait d) :
    (step s e).1.enabled = true := by
  rcases s with ⟨en, r, pr, ph⟩
  -- `step` by phase and event, then by what `loopTop` / `tryOpen` test: an attempt is made from
  -- `loopTop` only, with the flag set
  cases ph <;> cases e <;> simp_all [step, loopTop, tryOpen, finish, disabledNow, EnInv] <;>
    split at hp <;> simp_all

theorem attempt_only_enabled_run (mn mx : Nat) (pre : List Ev) (e : Ev) (p : PortState)
    (hp : p ∈ (step (after (init mn mx) pre) e).2) (hk : p = .open_ ∨ ∃ d, p = .wait d) :
    (after (init mn mx) (pre ++ [e])).enabled = true := by
  rw [C14Serial.after_concat]
  exact attempt_only_enabled _ e (reachable_enInv mn mx pre) p hp hk

/-- a `Wait(d)` is announced only (a) after an open attempt that failed - the path is absent,
    the port was not open, `d` is what `after_failed_connect` returned - or (b) when an open port
    is lost - `d` is what `after_disconnect` returned, the minimum -/
theorem wait_causes (s : S) (e : Ev) (d : Nat) (h : PortState.wait d ∈ (step s e).2) :
    (s.phase ≠ .session ∧ (step s e).1.present = false ∧ d = (afterFailedConnect s.retry).1 ∧
      (step s e).1.phase = .waiting) ∨
    (s.phase = .session ∧ e = .lost ∧ d = afterDisconnect s.retry ∧
      (step s e).1.phase = .waiting) := by
  rcases s with ⟨en, r, pr, ph⟩
  -- `step` by phase and event, then by what `loopTop` / `tryOpen` test: a `Wait` comes from
  -- `tryOpen` on an absent path or from `lost` in a session
  cases ph <;> cases e <;> simp_all [step, loopTop, tryOpen, finish, disabledNow] <;>
    split at h <;> simp_all

/-- `Open` is announced only when an open attempt (the user enabled a disabled channel, or a
    wait elapsed) found the path present; the port is open then -/
theorem open_causes (s : S) (e : Ev) (h : PortState.open_ ∈ (step s e).2) :
    s.phase ≠ .session ∧ (step s e).1.present = true ∧ (step s e).1.phase = .session ∧
      (e = .enable ∨ e = .absent ∨ e = .present) := by
  rcases s with ⟨en, r, pr, ph⟩
  -- `step` by phase and event, then by what `loopTop` / `tryOpen` test: `Open` comes from
  -- `tryOpen` on a present path, which only `enable` and an elapsed wait reach
  cases ph <;> cases e <;> simp [step, loopTop, tryOpen, finish, disabledNow] at h ⊢ <;>
    split at h <;> simp_all

/-- `Disabled` is announced by an event only in answer to a disable command that reached a
    waiting channel or an open port; the channel is disabled and the port closed afterwards, and
    no attempt is made -/
theorem disabled_causes (s : S) (e : Ev) (h : PortState.disabled ∈ (step s e).2) :
    e = .disable ∧ (s.phase = .waiting ∨ s.phase = .session) ∧
      (step s e).2 = [.disabled] ∧ (step s e).1.phase = .idle ∧
      (step s e).1.enabled = false ∧ (step s e).1.portOpen = false := by
  rcases s with ⟨en, r, pr, ph⟩
  -- `step` by phase and event, then by what `loopTop` / `tryOpen` test: only `disabledNow`
  -- announces `Disabled`, and its `loopTop` finds the flag cleared
  cases ph <;> cases e <;>
    simp [step, loopTop, tryOpen, finish, disabledNow, S.portOpen] at h ⊢ <;>
    split at h <;> simp_all

/-- the loss of an open port is always announced, with the minimum -/
theorem lost_port_announced (s : S) (h : s.phase = .session) :
    (step s .lost).2 = [.wait s.retry.min] ∧ (step s .lost).1.phase = .waiting := by
  rcases s with ⟨en, r, pr, ph⟩
  simp only at h; subst h
  simp [step, afterDisconnect]

example : legalLog [.disabled, .wait 40, .wait 80, .open_, .disabled, .wait 40, .shutdown] = true := by
  decide +kernel
example : legalLog [.disabled, .open_, .open_, .shutdown] = false := by decide +kernel
example : legalLog [.disabled, .disabled, .shutdown] = false := by decide +kernel
example : legalLog [.open_, .shutdown] = false := by decide +kernel
example : legalLog [.disabled, .shutdown, .shutdown] = false := by decide +kernel
example : legalLog [.disabled, .wait 40] = false := by decide +kernel
example : legalLog [.disabled, .shutdown, .open_] = false := by decide +kernel

end Rodbus.C13Serial
