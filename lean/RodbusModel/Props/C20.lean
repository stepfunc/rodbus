import RodbusModel.Lemmas.ServerSession
/-
  C20 — Protocol decoding (logging) is purely observational: server side.
  (the client side is in Props/C20Client)
-/
namespace Rodbus.C20

/-- for every script, configuration and pair of levels the bytes written, the application calls,
    the final states and the way the session ends are the same; the level only selects log lines -/
theorem decode_noninterference_server {σ : Type} (fr : Framing) (cfg : ServerCfg σ)
    (l₁ l₂ : DecodeLevel) (hs : List (Nat × σ)) (script : List SessStep) :
    runSession fr cfg l₁ hs script = runSession fr cfg l₂ hs script := rfl

/-- any number of level changes anywhere -/
theorem level_changes_transparent_server {σ : Type} (fr : Framing) (cfg : ServerCfg σ)
    (l : DecodeLevel) (hs : List (Nat × σ)) (script : List SessStep) :
    runSession fr cfg l hs script =
      runSession fr cfg l hs (script.filter fun s => match s with | .setDecode _ => false | _ => true) := by
  unfold runSession
  rw [cutScript_filter _ fun s h => by cases s <;> first | exact ⟨_, rfl⟩ | cases h]

/-- inserting a `ChangeDecoding` command at any position of the script — between frames or in the
    middle of a partially received frame — changes nothing.  Here that holds by construction:
    `runSession` hides commands from the reader (`cutScript` skips `.setDecode`).  That the command,
    which cancels the pending `next_frame` future, loses no buffered byte is
    `Cancel.session_cancel_safe` (Props/C05Cancel), about the finer model `runSessionC`. -/
theorem level_change_transparent_server {σ : Type} (fr : Framing) (cfg : ServerCfg σ)
    (l l' : DecodeLevel) (hs : List (Nat × σ)) (a b : List SessStep) :
    runSession fr cfg l hs (a ++ [.setDecode l'] ++ b) = runSession fr cfg l hs (a ++ b) := by
  -- both scripts are the same once the level changes are filtered out
  rw [level_changes_transparent_server, level_changes_transparent_server (script := a ++ b)]
  simp [List.filter_append]

/-- the level does matter for what it is meant to matter: the number of log lines -/
example : logLines ⟨0, 0, 0⟩ true = 0 ∧ logLines ⟨3, 2, 2⟩ true = 6 := by decide +kernel

/-- non-vacuity: a level change in the middle of a frame -/
example :
    (cutScript [.data [0, 1, 0, 0], .setDecode ⟨3, 2, 2⟩, .data [0, 6, 1, 3, 0, 0, 0, 1], .eof]).1 =
    (cutScript [.data [0, 1, 0, 0], .data [0, 6, 1, 3, 0, 0, 0, 1], .eof]).1 := by decide +kernel

end Rodbus.C20
