import RodbusModel.Props.C10
import RodbusModel.Lemmas.ClientLogRun
/-
  C07, client side: no peer input can wedge or silently kill the client task, at the level of a RUN
  of the task (Model/Client.lean), for MBAP (TCP / TLS) and RTU (serial).

  (1) `client_phase_outcome`: in every reachable state no completion in the log carries the
      internal-error result (`Res.internal`, which the model produces only for
      `InternalError::InsufficientBytesForRead`); the reader is inside its invariant (indices within
      the 260-byte `ReadBuffer`, parser in a state it can be in between calls), and from there,
      whatever the transport delivers next, it never takes the branch in which `read_some` is handed
      an empty slice and reports a spurious `UnexpectedEof` (`spuriousIn … = false`), and every
      failure it reports is a framing error of the protocol (`.bf k`), a transport error that was
      delivered, or an end of file that was delivered (`ReaderFailure`); the discard loop reports
      only `.bf k`.  That a phase ends with one of the kinds of `EndKind`, which has no
      internal-error constructor (`SessionError::from_request_err` ends a session for `Io` and
      `BadFrame` only, `session_ending_table_correct`), is carried by the type; `fin_kinds` states
      it for completeness.
  (2) `client_no_spin`: every tick of the task and every release of held clones strictly lowers a
      natural number, so the task cannot spin: `settle` with more fuel than the measure reaches a
      blocked state, and the fuel `settleFuel` of the model suffices for MBAP and RTU
      (`mbap_settled_blocked`, `rtu_settled_blocked`).
  (3) `client_shutdown_honoured`: dropping the task (`abort`) from every reachable state ends it
      and completes everything exactly as often as it was accepted.  A `Shutdown` command taken
      from the queue, or the drop of the last handle observed on an empty queue, ends the running
      PHASE with `shutdown` (`shutdown_cmd_ends_phase`, `handles_dropped_ends_phase`; as script
      steps on a task blocked in a session: `shutdown_step_ends_session`,
      `handle_drop_ends_session`); a blocked task that is not waiting for a reply has consumed its
      whole queue and still has a sender (`blocked_not_pending_shutdown`).  In the model `alive`
      only records whether the outer task exists (it is cleared by `abort` alone): once the phase
      has ended the harness' outer task goes on to its next scripted phase, of which no theorem
      here speaks (after a `Shutdown` command a later session serves requests again).
-/
namespace Rodbus.Client

section
variable {σ : Type}

/-- Nothing the task completes a request with is the internal error: what the reader and the
    discard loop report ends the session (`readerPoll_measure`, `discardBuffered_measure`), which
    the internal error does not. -/
theorem noInternal_resOk (F : Framing σ) (hF : Consuming F) : ResOk F (fun res => res ≠ .internal) where
  badReq := by intro e; simp
  pipe := by simp
  timeout := by simp
  noConn := by simp
  shutdown := by simp
  resp := fun req pdu => (respResult_ne req pdu).2.1
  reader := fun fuel st rb rx res x h => by
    obtain ⟨w, hw⟩ := hF
    rintro rfl
    exact (readerPoll_measure F w hw fuel st rb rx).2.2.2 .internal (by rw [h]) rfl
  discard := fun fuel st rb res x h => by
    obtain ⟨w, hw⟩ := hF
    rintro rfl
    exact (discardBuffered_measure F w hw fuel st rb _ _ _ h).2 .internal rfl rfl

def PhaseOutcome (F : Framing σ) (s : State σ) : Prop :=
  (∀ rid sty res t, LogEntry.done rid sty res t ∈ s.log → res ≠ .internal)
    ∧ (∀ fuel rx, spuriousIn F fuel s.pst s.rb rx = false)
    ∧ (∀ fuel rx res x, readerPoll F fuel s.pst s.rb rx = (.fail res, x) → ReaderFailure rx res)
    ∧ (∀ fuel res x, discardBuffered F fuel s.pst s.rb = (some res, x) → ∃ k, res = .bf k)

/-- `client_phase_outcome` for every framing whose parser consumes or blocks and whose reader has
    a safety invariant `I` -/
theorem client_phase_outcome (F : Framing σ) (I : σ × RB → Prop) (hS : ReaderSafe F I)
    (hF : Consuming F) (cap maxTo : Nat) (d : Decode) (coins : List Bool) (steps : List Step)
    (s : State σ) (hs : s = runState F (State.init F cap maxTo d coins) steps) :
    PhaseOutcome F s ∧ I (s.pst, s.rb) := by
  subst hs
  have hI : I (runState F (State.init F cap maxTo d coins) steps).rd :=
    hS.reachable cap maxTo d coins steps
  have hL := reachable_logOk (Q := fun _ => True) (noInternal_resOk F hF) cap maxTo d coins steps
    (fun st _ => by cases st <;> trivial)
  refine ⟨⟨hL.2.2.2, ?_, ?_, ?_⟩, hI⟩
  · intro fuel rx
    exact (hS.readerPoll fuel _ _ rx hI).2.1
  · intro fuel rx res x h
    exact (hS.readerPoll fuel _ _ rx hI).2.2 res (by rw [h])
  · intro fuel res x h
    exact (hS.discard fuel _ _ hI).2 res (by rw [h])

end

theorem client_phase_outcome_mbap (cap maxTo : Nat) (d : Decode) (coins : List Bool)
    (steps : List Step) (s : State Mbap.PState)
    (hs : s = runState mbap (State.init mbap cap maxTo d coins) steps) :
    PhaseOutcome mbap s ∧ Mbap.Inv s.rb ∧ Mbap.StOk s.pst :=
  client_phase_outcome mbap MbapRd mbap_readerSafe mbap_consuming cap maxTo d coins steps s hs

/-- serial (for the parser-state part this is `rtu_stok_reachable`) -/
theorem client_phase_outcome_rtu (cap maxTo : Nat) (d : Decode) (coins : List Bool)
    (steps : List Step) (s : State Rtu.PState)
    (hs : s = runState rtu (State.init rtu cap maxTo d coins) steps) :
    PhaseOutcome rtu s ∧ Rtu.Inv s.rb ∧ Rtu.StOk s.pst :=
  client_phase_outcome rtu RtuRd rtu_readerSafe rtu_consuming cap maxTo d coins steps s hs

/-- the framing errors behind `.bf k` are protocol errors (`C07.IsProtocolError`, the only framing
    errors a server session ends with, Props/C07): the two internal conditions do not map to `.bf` -/
theorem bf_is_protocol_error (e : FrameErr) (k : BfKind) (h : frameErrRes e = .bf k) :
    C07.IsProtocolError e := by
  cases e <;> simp [frameErrRes] at h <;> trivial

/-- how a phase can end: the exhaustive list (there is no internal-error kind) -/
theorem fin_kinds (k : EndKind) :
    (∃ i, k = .io i) ∨ k = .badFrame ∨ k = .disabled ∨ (∃ n, k = .maxTo n) ∨ k = .shutdown
      ∨ k = .enabled ∨ k = .elapsed := by
  cases k <;> simp

/-- a request result ends the session only as an I/O error or a bad frame -/
theorem sessionEnd_kinds (res : Res) (k : EndKind) (h : res.sessionEnd = some k) :
    (∃ i, res = .io i ∧ k = .io i) ∨ (∃ b, res = .bf b ∧ k = .badFrame) := by
  cases res <;> simp [Res.sessionEnd] at h
  · rename_i b; exact Or.inr ⟨b, rfl, h.symm⟩
  · rename_i i; exact Or.inl ⟨i, rfl, h.symm⟩

/-- For every framing whose parser consumes or blocks there is a natural-number
    measure of the state that every tick of the outer task and every release of the clones held by
    completed futures strictly lowers; hence `settle` with more fuel than the measure ends in a
    state in which the task is blocked (waiting for input, a timer or a command). -/
theorem client_no_spin {σ : Type} (F : Framing σ) (hF : Consuming F) :
    ∃ m : State σ → Nat,
      (∀ s t, tick F s = some t → m t < m s)
        ∧ (∀ s : State σ, s.held ≠ 0 → m { s with held := 0 } < m s)
        ∧ (∀ n s, Blocked F (settle F n s) ∨ m (settle F n s) + n ≤ m s)
        ∧ (∀ n s, m s < n → Blocked F (settle F n s)) := by
  obtain ⟨w, hw⟩ := hF
  exact ⟨mu w, fun s t h => tick_mu F w hw s t h,
    fun s hh => Nat.lt_of_succ_le (Nat.le_of_eq (mu_release w s hh)),
    settle_progress F w hw, fun n s h => settle_blocked_of_fuel F w hw n s h⟩

theorem client_no_spin_mbap :
    (∀ s t : State Mbap.PState, tick mbap s = some t → mu mbapW t < mu mbapW s)
      ∧ ∀ s : State Mbap.PState, Blocked mbap (settled mbap s) :=
  ⟨fun s t h => tick_mu mbap mbapW mbap_measure s t h, mbap_settled_blocked⟩

theorem client_no_spin_rtu :
    (∀ s t : State Rtu.PState, tick rtu s = some t → mu (fun _ => 0) t < mu (fun _ => 0) s)
      ∧ ∀ s : State Rtu.PState, Blocked rtu (settled rtu s) :=
  ⟨fun s t h => tick_mu rtu (fun _ => 0) rtu_measure s t h, rtu_settled_blocked⟩

section
variable {σ : Type}

/-- From every reachable state, dropping the task (`abort`, the step
    the owner of the channel performs on shutdown) ends it: afterwards the task does not exist,
    nothing is queued, nothing is in flight, and every accepted request has been completed exactly
    as often as it was accepted (exactly once for a script with distinct ids). -/
theorem client_shutdown_honoured (F : Framing σ) (cap maxTo : Nat) (d : Decode)
    (coins : List Bool) (steps : List Step) (s : State σ)
    (hs : s = runState F (State.init F cap maxTo d coins) (steps ++ [.abort])) :
    s.alive = false ∧ s.queue = [] ∧ s.pos = .noPhase
      ∧ (∀ rid, (doneIds s.log).count rid = s.accepted.count rid)
      ∧ ((scriptRids steps).Nodup → ∀ rid ∈ s.accepted, (doneIds s.log).count rid = 1) := by
  have hdead : s.alive = false := by
    rw [hs, runState_append]
    exact (settled_inv (pend_taskInv F _) _ ⟨Nat.le_refl _, rfl⟩).2.trans (abort_alive _)
  obtain ⟨a, b, c, e⟩ := closed_trace_exactly_once F cap maxTo d coins (steps ++ [.abort]) s hs hdead
  refine ⟨hdead, a, b, c, ?_⟩
  intro hnd
  apply e
  rw [scriptRids_append]
  simpa [scriptRids] using hnd

/-- a `Shutdown` command at the head of the queue ends the running phase with `shutdown` as soon
    as the task takes a command: in a session, in `wait_for_enabled`, in `fail_requests_for` -/
theorem shutdown_cmd_ends_phase (F : Framing σ) (s : State σ) (q : List Cmd)
    (hq : s.queue = .shutdown :: q) :
    (∀ m, sessionRecv F s m = some (endPhase { s with queue := q } .shutdown))
      ∧ (s.enabled = false → tickWait s = some (endPhase { s with queue := q } .shutdown))
      ∧ (∀ dl c, (decide (s.now ≥ dl) && !c) = false →
          tickFail s dl c = some (endPhase { s with queue := q } .shutdown)) := by
  refine ⟨?_, ?_, ?_⟩
  · intro m; unfold sessionRecv; rw [hq]; rfl
  · intro he; unfold tickWait; rw [hq]; simp [he, waitCmd]
  · intro dl c hc
    unfold tickFail
    simp only [hc, hq]
    rfl

/-- the drop of the last handle, observed on an empty queue, ends the running phase with
    `shutdown` -/
theorem handles_dropped_ends_phase (F : Framing σ) (s : State σ) (hq : s.queue = [])
    (hc : closed s = true) :
    (∀ m, sessionRecv F s m = some (endPhase s .shutdown))
      ∧ (s.enabled = false → tickWait s = some (endPhase s .shutdown))
      ∧ (∀ dl c, (decide (s.now ≥ dl) && !c) = false →
          tickFail s dl c = some (endPhase s .shutdown)) := by
  refine ⟨?_, ?_, ?_⟩
  · intro m; unfold sessionRecv; rw [hq]; simp [hc]
  · intro he; unfold tickWait; rw [hq]; simp [he, hc]
  · intro dl c hcc
    unfold tickFail
    simp only [hcc, hq]
    simp [hc]

/-- a blocked task that is not waiting for the reply to a request in flight has consumed its whole
    queue (in particular every `Shutdown` command) and still has a sender: a queued shutdown or
    the drop of the last handle never leaves it blocked inside a phase -/
theorem blocked_not_pending_shutdown (F : Framing σ) (s : State σ) (ha : s.alive = true)
    (hb : tick F s = none)
    (hp : (∃ m, s.pos = .idle m) ∨ s.pos = .waitEnabled ∨ ∃ dl c, s.pos = .failFor dl c) :
    s.queue = [] ∧ closed s = false := by
  rw [tick_eq_none F s ha] at hb
  rcases hp with ⟨m, hp⟩ | hp | ⟨dl, c, hp⟩ <;> rw [hp] at hb
  · exact hb.2.2
  · exact hb.2
  · exact hb.2

/-- A task blocked in a session with no request in flight, after a script step that writes only the
    queue, the handles and the count of waiting senders (`v`): the reader is still blocked, so when
    the step left a `Shutdown` command in the queue, or no sender, the next tick ends the session
    with `shutdown`. -/
theorem wake_ends_session (F : Framing σ) (u v : State σ) (m : Nat) (ha : u.alive = true)
    (hp : u.pos = .idle m) (hb : tick F u = none) (q : List Cmd) (hd : List Bool) (wt : Nat)
    (hv : v = { u with queue := q, handles := hd, waited := wt })
    (hq : q = [.shutdown] ∨ (q = [] ∧ closed v = true)) :
    ∃ t, tick F v = some t ∧ t.pos = .noPhase ∧ t.queue = []
      ∧ t.log = .fin .shutdown u.now :: u.log ∧ t.alive = true := by
  rw [tick_eq_none F u ha, hp] at hb
  have hr : (pollReader F v m).1 = .blocked :=
    (pollReader_congr F u v m (by rw [hv]) (by rw [hv]) (by rw [hv])).trans hb.1
  obtain ⟨st, rb, mk, hw⟩ := pollReader_writes F v m
  have hc : closed (pollReader F v m).2 = closed v := by rw [hw]; rfl
  rw [tick_eq_tickIdle F v m (by rw [hv]; exact ha) (by rw [hv]; exact hp), tickIdle_eq, hr]
  unfold sessionRecv
  rw [hc, hw, hv]
  rcases hq with rfl | ⟨rfl, hcl⟩
  · exact ⟨_, rfl, rfl, rfl, rfl, ha⟩
  · rw [← hv, hcl, hv]; exact ⟨_, rfl, rfl, rfl, rfl, ha⟩

/-- the script step `S<h>` (`Channel::shutdown`) on a task that is blocked in a session with no
    request in flight: the next tick takes the command and ends the session with `shutdown` -/
theorem shutdown_step_ends_session (F : Framing σ) (u : State σ) (m : Nat) (ha : u.alive = true)
    (hp : u.pos = .idle m) (hb : tick F u = none) (h : Nat) (hh : handleAlive u h = true) :
    ∃ t, tick F (applyStep u (.shutdown h)) = some t ∧ t.pos = .noPhase ∧ t.queue = []
      ∧ t.log = .fin .shutdown u.now :: u.log ∧ t.alive = true := by
  have hq : u.queue = [] := (blocked_not_pending_shutdown F u ha hb (.inl ⟨m, hp⟩)).1
  have happly : applyStep u (.shutdown h) = enqueue u .shutdown := by simp [applyStep, hh, ha]
  rw [happly]
  exact wake_ends_session F u _ m ha hp hb _ u.handles _ rfl (.inl (by rw [hq]; rfl))

/-- dropping the last handle (`H-<i>`, no completed future holds a clone) on a task that is
    blocked in a session with no request in flight: the next tick observes the closed channel and
    ends the session with `shutdown` -/
theorem handle_drop_ends_session (F : Framing σ) (u : State σ) (m : Nat) (ha : u.alive = true)
    (hp : u.pos = .idle m) (hb : tick F u = none) (i : Nat)
    (hc : closed (applyStep u (.dropHandle i)) = true) :
    ∃ t, tick F (applyStep u (.dropHandle i)) = some t ∧ t.pos = .noPhase ∧ t.queue = []
      ∧ t.log = .fin .shutdown u.now :: u.log ∧ t.alive = true :=
  wake_ends_session F u _ m ha hp hb u.queue _ u.waited rfl
    (.inr ⟨(blocked_not_pending_shutdown F u ha hb (.inl ⟨m, hp⟩)).1, hc⟩)

end

namespace Example

/-- garbage (a bad protocol id) fails the request in flight with the framing error and ends the
    session with `badFrame`; nothing internal -/
example :
    (runState mbap s16 [.newSession, .submit .R 0 (rc "a" .future 1000),
      .rx (.data [0, 0, 0xFF, 0xFF, 0, 2, 1, 3])]).log
      = [.fin .badFrame 0, .done "a" .future (.bf .proto) 0,
         .tx [0, 0, 0, 0, 0, 6, 1, 1, 0, 0, 0, 8]] := by decide +kernel

/-- a delivery larger than the read buffer (300 bytes of an over-long frame) is read in pieces;
    no spurious end of file: the session ends with the framing error of the header -/
example :
    (runState mbap s16 [.newSession, .submit .R 0 (rc "a" .future 1000),
      .rx (.data ([0, 0, 0, 0, 0x01, 0x2C, 1] ++ List.replicate 293 0))]).log.take 2
      = [.fin .badFrame 0, .done "a" .future (.bf .toobig) 0] := by decide +kernel

/-- the end of file the transport delivers is reported as such -/
example :
    (runState mbap s16 [.newSession, .submit .R 0 (rc "a" .future 1000), .rx .eof]).log.take 2
      = [.fin (.io .eof) 0, .done "a" .future (.io .eof) 0] := by decide +kernel

/-- abort with a request in flight and one queued -/
example :
    let s := runState mbap s16
      ([.newSession, .submit .R 0 (rc "a" .future 1000), .submit .C 0 (rc "b" .callback 10)]
        ++ [.abort])
    s.alive = false ∧ doneIds s.log = ["b", "a"] := by decide +kernel

example :
    (runState mbap s16 [.newSession, .shutdown 0]).log = [.fin .shutdown 0] := by decide +kernel

example :
    (runState mbap s16 [.newSession, .dropHandle 0]).log = [.fin .shutdown 0] := by decide +kernel

end Example

end Rodbus.Client
