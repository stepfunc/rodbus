import RodbusModel.Model.Tls
import RodbusModel.Gen.Tables
/-
  C09 — TLS admits only authenticated peers at or above the minimum protocol version.
  Proved: rodbus's own part of the decision. Hypotheses (not proved, exercised by the tls grid
  against openssl peers): the TLS library negotiates the highest common enabled version and
  reports the certificate attributes correctly.
-/
namespace Rodbus.C09
open Rodbus.Tls

theorem versions_correct (m v : Ver) : v ∈ enabled m ↔ m.rank ≤ v.rank := by
  cases m <;> cases v <;> simp [enabled, Ver.rank]

/-- the version table regenerated from `tcp/tls/client.rs` agrees with the model:
    rows are (minimum is 1.3?, enables 1.2?, enables 1.3?) -/
theorem tls_table_correct :
    Gen.tlsVersions = [(false, (enabled .v12).contains .v12, (enabled .v12).contains .v13),
                       (true, (enabled .v13).contains .v12, (enabled .v13).contains .v13)] := by
  decide +kernel

theorem negotiate_enabled (m : Ver) (offered : List Ver) :
    negotiate (enabled m) offered =
      if .v13 ∈ offered then some .v13 else if m = .v12 ∧ .v12 ∈ offered then some .v12 else none := by
  cases m <;> simp [negotiate, enabled]

/-- never below the minimum -/
theorem negotiated_at_least_min (m : Ver) (offered : List Ver) (v : Ver)
    (h : negotiate (enabled m) offered = some v) : m.rank ≤ v.rank ∧ v ∈ offered := by
  rw [negotiate_enabled] at h
  split at h
  · cases h; exact ⟨by cases m <;> decide, ‹_›⟩
  · split at h
    · rename_i h2; cases h; exact ⟨by rw [h2.1]; decide, h2.2⟩
    · cases h

/-- always when the peer offers any version at or above the minimum -/
theorem negotiation_succeeds (m : Ver) (offered : List Ver)
    (h : ∃ v ∈ offered, m.rank ≤ v.rank) : (negotiate (enabled m) offered).isSome := by
  obtain ⟨v, hv, hr⟩ := h
  rw [negotiate_enabled]
  split
  · rfl
  · -- 1.3 is not offered, so `v` is 1.2, and then so is the minimum
    cases v with
    | v13 => exact absurd hv ‹_›
    | v12 =>
      cases m with
      | v12 => rw [if_pos ⟨rfl, hv⟩]; rfl
      | v13 => exact absurd hr (by decide)

theorem negotiate_isSome_iff (m : Ver) (offered : List Ver) :
    (∃ v, negotiate (enabled m) offered = some v) ↔ ∃ v ∈ offered, m.rank ≤ v.rank :=
  ⟨fun ⟨v, h⟩ => ⟨v, (negotiated_at_least_min m offered v h).2, (negotiated_at_least_min m offered v h).1⟩,
   fun h => Option.isSome_iff_exists.1 (negotiation_succeeds m offered h)⟩

theorem admitClient_eq_some (min : Ver) (mode : Mode) (name : Option String) (offered : List Ver)
    (server : Option Cert) (v : Ver) :
    admitClient min mode name offered server = some v ↔
      negotiate (enabled min) offered = some v ∧ certAccepted mode name server = true := by
  unfold admitClient
  cases negotiate (enabled min) offered with
  | none => exact ⟨nofun, fun h => nomatch h.1⟩
  | some w =>
    cases certAccepted mode name server with
    | true => exact ⟨fun h => ⟨h, rfl⟩, fun h => h.1⟩
    | false => exact ⟨nofun, fun h => nomatch h.2⟩

theorem extractRole_eq_some (c : Cert) (r : String) : extractRole c = some r ↔ c.roles = [r] := by
  unfold extractRole
  split
  · rename_i r' h; rw [h]; exact ⟨fun e => by cases e; rfl, fun e => by cases e; rfl⟩
  · rename_i h; exact ⟨nofun, fun e => absurd e (h r)⟩

theorem extractRole_isSome (peer : Option Cert) :
    (∃ r, peer.bind extractRole = some r) ↔ ∃ c r, peer = some c ∧ c.roles = [r] := by
  cases peer with
  | none => simp
  | some c => simp [extractRole_eq_some]

/-- the server's decision: version, certificate, and — in authorization mode — the single role -/
theorem admitServer_eq_some (min : Ver) (mode : Mode) (authz : Bool) (offered : List Ver)
    (peer : Option Cert) (a : Admission) :
    admitServer min mode authz offered peer = some a ↔
      negotiate (enabled min) offered = some a.version ∧ certAccepted mode none peer = true ∧
      a.role = (if authz then peer.bind extractRole else none) ∧ (authz = true → a.role.isSome) := by
  obtain ⟨av, ar⟩ := a
  unfold admitServer
  cases negotiate (enabled min) offered with
  | none => exact ⟨nofun, fun h => nomatch h.1⟩
  | some w =>
    cases certAccepted mode none peer with
    | false => exact ⟨nofun, fun h => nomatch h.2.1⟩
    | true =>
      cases authz with
      | false =>
        exact ⟨fun h => by cases h; exact ⟨rfl, rfl, rfl, nofun⟩,
          fun ⟨h1, _, h2, _⟩ => by cases h1; cases h2; rfl⟩
      | true =>
        cases peer.bind extractRole with
        | none => exact ⟨nofun, fun ⟨_, _, h2, h3⟩ => by cases h2; exact nomatch h3 rfl⟩
        | some r =>
          exact ⟨fun h => by cases h; exact ⟨rfl, rfl, rfl, fun _ => rfl⟩,
            fun ⟨h1, _, h2, _⟩ => by cases h1; cases h2; rfl⟩

/-- a certificate is always required (`certAccepted … none` is `false` by definition) -/
theorem admitServer_none (min : Ver) (mode : Mode) (authz : Bool) (offered : List Ver) :
    admitServer min mode authz offered none = none := by
  rw [admitServer]
  cases negotiate (enabled min) offered <;> rfl

theorem admitClient_none (min : Ver) (mode : Mode) (name : Option String) (offered : List Ver) :
    admitClient min mode name offered none = none := by
  rw [admitClient]
  cases negotiate (enabled min) offered <;> rfl

/-- the property's predicate for the server role -/
def ServerAdmits (min : Ver) (mode : Mode) (authz : Bool) (offered : List Ver)
    (peer : Option Cert) : Prop :=
  (∃ v ∈ offered, min.rank ≤ v.rank) ∧ certAccepted mode none peer = true ∧
  (authz = true → ∃ c r, peer = some c ∧ c.roles = [r])

/-- the role handed to the authorization handler is exactly the single role of the certificate -/
theorem role_is_certificate_role (min : Ver) (mode : Mode) (offered : List Ver) (c : Cert)
    (a : Admission) (h : admitServer min mode true offered (some c) = some a) :
    ∃ r, c.roles = [r] ∧ a.role = some r := by
  obtain ⟨_, _, hr, hs⟩ := (admitServer_eq_some ..).1 h
  obtain ⟨r, e⟩ := Option.isSome_iff_exists.1 (hs rfl)
  exact ⟨r, (extractRole_eq_some c r).1 (hr.symm.trans e), e⟩

/-- a session is created iff the peer offers a version at or above the minimum, its certificate
    validates under the configured mode, and — in authorization mode — it carries exactly one
    role (which is then the session's role: `role_is_certificate_role`) -/
theorem admit_iff (min : Ver) (mode : Mode) (authz : Bool) (offered : List Ver)
    (peer : Option Cert) :
    (admitServer min mode authz offered peer).isSome ↔ ServerAdmits min mode authz offered peer := by
  rw [ServerAdmits, ← negotiate_isSome_iff, ← extractRole_isSome, Option.isSome_iff_exists]
  constructor
  · rintro ⟨a, ha⟩
    obtain ⟨h1, h2, h3, h4⟩ := (admitServer_eq_some ..).1 ha
    refine ⟨⟨_, h1⟩, h2, fun hz => ?_⟩
    subst hz
    obtain ⟨r, hr⟩ := Option.isSome_iff_exists.1 (h4 rfl)
    exact ⟨r, h3.symm.trans hr⟩
  · rintro ⟨⟨v, h1⟩, h2, h3⟩
    cases authz with
    | false => exact ⟨⟨v, none⟩, (admitServer_eq_some ..).2 ⟨h1, h2, rfl, nofun⟩⟩
    | true =>
      obtain ⟨r, hr⟩ := h3 rfl
      exact ⟨⟨v, some r⟩, (admitServer_eq_some ..).2 ⟨h1, h2, hr.symm, fun _ => rfl⟩⟩

/-- certificates carrying no role (or several) are refused in authorization mode -/
theorem no_role_refused (min : Ver) (mode : Mode) (offered : List Ver) (c : Cert)
    (h : c.roles.length ≠ 1) : admitServer min mode true offered (some c) = none := by
  cases ha : admitServer min mode true offered (some c) with
  | none => rfl
  | some a =>
    obtain ⟨r, hr, _⟩ := role_is_certificate_role min mode offered c a ha
    rw [hr] at h; exact absurd rfl h

/-- without authorization the session carries no role (`AuthorizationType::None`) -/
theorem no_authz_no_role (min : Ver) (mode : Mode) (offered : List Ver) (peer : Option Cert)
    (a : Admission) (h : admitServer min mode false offered peer = some a) : a.role = none :=
  ((admitServer_eq_some ..).1 h).2.2.1

theorem client_admit_iff (min : Ver) (mode : Mode) (name : Option String) (offered : List Ver)
    (server : Option Cert) :
    (admitClient min mode name offered server).isSome ↔
      (∃ v ∈ offered, min.rank ≤ v.rank) ∧ certAccepted mode name server = true := by
  simp only [Option.isSome_iff_exists, admitClient_eq_some, exists_and_right, negotiate_isSome_iff]

/-- what "validates under the configured mode" means -/
theorem cert_accepted_meaning (mode : Mode) (name : Option String) (c : Cert) :
    certAccepted mode name (some c) = true ↔
      match mode with
      | .authority t => c.authority = some t ∧ c.validNow = true ∧ (∀ n, name = some n → n ∈ c.names)
      | .selfSigned e => c.bytesId = e ∧ c.validNow = true := by
  cases mode with
  | authority t =>
    cases name with
    | none => simp [certAccepted]
    | some n => simp [certAccepted, and_assoc]
  | selfSigned e => simp [certAccepted]

theorem no_certificate_refused (mode : Mode) (name : Option String) :
    certAccepted mode name none = false := rfl

example : admitServer .v12 (.authority 1) true [.v12, .v13]
    (some ⟨some 1, ["client"], true, ["operator"], 7⟩) = some ⟨.v13, some "operator"⟩ := by decide +kernel
example : admitServer .v13 (.authority 1) false [.v12] (some ⟨some 1, [], true, [], 7⟩) = none := by decide +kernel
example : admitClient .v12 (.authority 1) (some "test.com") [.v13] (some ⟨some 1, ["test.com"], true, [], 3⟩) = some .v13 := by decide +kernel
example : admitClient .v12 (.authority 1) (some "test.com") [.v13] (some ⟨some 1, ["other.com"], true, [], 3⟩) = none := by decide +kernel

/-- In authority mode certificates sent after the end entity change nothing: admission, version
    and role are those of the first certificate alone.  (`peer_certificates().first()`) -/
theorem extra_certificates_irrelevant (min : Ver) (t : Nat) (authz : Bool) (offered : List Ver)
    (c : Cert) (rest : List Cert) :
    admitServerChain min (.authority t) authz offered (c :: rest)
      = admitServer min (.authority t) authz offered (some c) := by
  cases rest <;> rfl

/-- …so the session's role is exactly the single role extension of the end-entity certificate,
    whatever roles the other presented certificates carry -/
theorem role_is_end_entity_role (min : Ver) (t : Nat) (offered : List Ver) (c : Cert)
    (rest : List Cert) (a : Admission)
    (h : admitServerChain min (.authority t) true offered (c :: rest) = some a) :
    ∃ r, c.roles = [r] ∧ a.role = some r := by
  rw [extra_certificates_irrelevant] at h
  exact role_is_certificate_role min (.authority t) offered c a h

/-- a role-less end entity is refused even when a later certificate carries a role -/
theorem roleless_end_entity_refused (min : Ver) (t : Nat) (offered : List Ver) (c : Cert)
    (rest : List Cert) (h : c.roles.length ≠ 1) :
    admitServerChain min (.authority t) true offered (c :: rest) = none := by
  rw [extra_certificates_irrelevant]
  exact no_role_refused min (.authority t) offered c h

/-- the self-signed verifier accepts exactly one certificate -/
theorem self_signed_single_certificate (min : Ver) (e : Nat) (authz : Bool) (offered : List Ver)
    (c d : Cert) (rest : List Cert) :
    admitServerChain min (.selfSigned e) authz offered (c :: d :: rest) = none := rfl

/-- an empty Certificate message is refused in every mode -/
theorem empty_chain_refused (min : Ver) (mode : Mode) (authz : Bool) (offered : List Ver) :
    admitServerChain min mode authz offered [] = none := by
  cases mode <;> exact admitServer_none ..

example : (admitServerChain .v12 (.authority 1) true [.v13]
    [⟨some 1, ["client"], true, ["operator"], 7⟩, ⟨none, ["x"], true, ["admin"], 99⟩]).map (·.role)
      = some (some "operator") := by decide +kernel

theorem admitServerSeq_get (min : Ver) (mode : Mode) (authz : Bool) (peers : List Peer) (i : Nat) :
    (admitServerSeq min mode authz peers)[i]? =
      peers[i]?.map (fun p => admitServerChain min mode authz p.1 p.2) := by
  simp [admitServerSeq]

theorem admitServerSeq_length (min : Ver) (mode : Mode) (authz : Bool) (peers : List Peer) :
    (admitServerSeq min mode authz peers).length = peers.length := by
  simp [admitServerSeq]

/-- Whoever connected before (`before`) and whoever connects afterwards (`after`), the peer `p`
    gets the outcome a fresh server would give it.  This holds by construction: `admitServerSeq`
    is a `map`, the model of a `handle_connection` that keeps nothing of one peer for the next.
    What it adds is that the role handed to the authorization handler is the one of the
    certificate presented on this connection (`role_is_end_entity_role`). -/
theorem admission_history_independent (min : Ver) (mode : Mode) (authz : Bool)
    (before after : List Peer) (p : Peer) :
    (admitServerSeq min mode authz (before ++ p :: after))[before.length]? =
      some (admitServerChain min mode authz p.1 p.2) := by
  simp [admitServerSeq]

theorem admission_depends_on_peer_only (min : Ver) (mode : Mode) (authz : Bool)
    (peers peers' : List Peer) (i : Nat) (h : peers[i]? = peers'[i]?) :
    (admitServerSeq min mode authz peers)[i]? = (admitServerSeq min mode authz peers')[i]? := by
  rw [admitServerSeq_get, admitServerSeq_get, h]

/-- in particular a role-less certificate is refused (authorization mode) after any history … -/
theorem roleless_refused_after_any_history (min : Ver) (t : Nat) (before after : List Peer)
    (offered : List Ver) (c : Cert) (rest : List Cert) (h : c.roles.length ≠ 1) :
    (admitServerSeq min (.authority t) true (before ++ (offered, c :: rest) :: after))[before.length]?
      = some none := by
  rw [admission_history_independent]
  exact congrArg some (roleless_end_entity_refused min t offered c rest h)

/-- … and an admitted peer's role is its own certificate's role after any history -/
theorem role_is_own_role_after_any_history (min : Ver) (t : Nat) (before after : List Peer)
    (offered : List Ver) (c : Cert) (rest : List Cert) (a : Admission)
    (h : (admitServerSeq min (.authority t) true (before ++ (offered, c :: rest) :: after))[before.length]?
      = some (some a)) :
    ∃ r, c.roles = [r] ∧ a.role = some r := by
  rw [admission_history_independent] at h
  exact role_is_end_entity_role min t offered c rest a (Option.some.inj h)

/-- operator, then viewer, then a role-less certificate, then operator again -/
example :
    let op : Cert := ⟨some 1, ["client"], true, ["operator"], 7⟩
    let vw : Cert := ⟨some 1, ["client"], true, ["viewer"], 8⟩
    let nr : Cert := ⟨some 1, ["client"], true, [], 9⟩
    (admitServerSeq .v12 (.authority 1) true
        [([.v13], [op]), ([.v12], [vw]), ([.v13], [nr]), ([.v12, .v13], [op])]).map
      (fun o => o.map (fun a => (a.version, a.role)))
      = [some (.v13, some "operator"), some (.v12, some "viewer"), none, some (.v13, some "operator")] := by
  decide +kernel

end Rodbus.C09
