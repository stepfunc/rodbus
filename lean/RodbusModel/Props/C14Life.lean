import RodbusModel.Lemmas.LifecycleDelay
/-
  C14 for the TCP / TLS client channel task (`TcpChannelTask::run`), for ALL scripts: whatever
  the user does at whatever callback or idle period, whatever the peers do (refuse, fail the TLS
  handshake, close, send garbage, stay silent, serve, serve and go away) and however the
  `select!` races resolve, the delays carried by the announced wait states pass the checker
  `Spec.LifeObs.conforms`, which looks at the announced sequence alone (`min`, `max`: what the
  strategy was created with, `max` a representable `Duration`):

  * `WaitAfterFailedConnect d`: `d = min(min · 2^k, max)`, `k` the number of
    `WaitAfterFailedConnect` announcements since the last `Connected` (or since the start) — the
    counter is reset ONLY at `Connected`, not by a disable / enable, not by a TCP connect whose
    TLS handshake fails afterwards;
  * `WaitAfterDisconnect d`: `d = min`.

  (`C13.announced_delays_follow_strategy*` state the same for one script shape: enable, then
  watch.)
-/
namespace Rodbus.C14Life
open Rodbus.Life Rodbus.Spec.Life Rodbus.Spec.LifeObs Rodbus.Retry

theorem delayQ_run (mn mx : Nat) (hmx : mx ≤ DURATION_MAX) (s0 : S) (h0 : Initial s0)
    (hr : s0.retry = Retry.create mn mx) (script : List (List Action)) :
    DelayQ mn mx (core (Life.run s0 script).1) (Life.run s0 script).2 := by
  refine ((delayInv hmx).run ?_ script).2
  simp [DelayQ, core, h0.log, conforms, counter, DelayPos, stOk, count, DelayPhase, hr,
    create_eq_closed]

/-- the states announced in a run: those the environment has seen (logged), and the one the task
    is blocked in the callback of -/
def announced (r : S × Pos) : List St :=
  states r.1.log ++ (match r.2 with | .gate st _ => [st] | _ => [])

/-- C14 for every script: the announced states, the pending announcement included, pass the
    checker.  `mx ≤ DURATION_MAX`: the cap is a representable `Duration`. -/
theorem announced_delays_conform (mn mx : Nat) (hmx : mx ≤ DURATION_MAX) (s0 : S) (h0 : Initial s0)
    (hr : s0.retry = Retry.create mn mx) (script : List (List Action)) :
    conforms mn mx 0 (announced (Life.run s0 script)) = true := by
  have h := delayQ_run mn mx hmx s0 h0 hr script
  unfold announced
  generalize Life.run s0 script = r at h
  obtain ⟨s, pos⟩ := r
  obtain ⟨hconf, hpos⟩ : conforms mn mx 0 (states s.log) = true ∧
    DelayPos mn mx (counter 0 (states s.log)) (core s) pos := h
  cases pos with
  | gate st next =>
    simp only []
    rw [conforms_append]
    simp [hconf, conforms, hpos.1]
  | idle ph => simpa using hconf
  | done => simpa using hconf

theorem logged_delays_conform (mn mx : Nat) (hmx : mx ≤ DURATION_MAX) (s0 : S) (h0 : Initial s0)
    (hr : s0.retry = Retry.create mn mx) (script : List (List Action)) :
    conforms mn mx 0 (states (Life.run s0 script).1.log) = true :=
  (delayQ_run mn mx hmx s0 h0 hr script).1

/-- the checker spelled out for one announcement: if the announced sequence is `pre ++ [st]`
    and passes, then `st = WaitAfterFailedConnect d` implies `d = min(min · 2^k, max)` with
    `k = counter 0 pre`, and `st = WaitAfterDisconnect d` implies `d = min` -/
theorem conforms_last (mn mx : Nat) (pre : List St) (st : St)
    (h : conforms mn mx 0 (pre ++ [st]) = true) :
    (∀ d, st = .waitFail d → d = delay mn mx (counter 0 pre)) ∧
    (∀ d, st = .waitDisc d → d = mn) := by
  rw [conforms_append] at h
  simp only [conforms, Bool.and_true, Bool.and_eq_true] at h
  constructor
  · intro d hd; subst hd; simpa [stOk] using h.2
  · intro d hd; subst hd; simpa [stOk] using h.2

/-- the counter is the number of `WaitAfterFailedConnect`s since the last `Connected` -/
theorem counter_spec (pre post : List St) (hpost : ∀ st ∈ post, st ≠ .connected) :
    counter 0 (pre ++ .connected :: post) = post.countP (fun st => match st with | .waitFail _ => true | _ => false) := by
  -- one state other than `Connected`: the counter grows by one exactly at `WaitAfterFailedConnect`
  have one : ∀ (k : Nat) {st : St}, st ≠ .connected →
      count k st = k + if (match st with | .waitFail _ => true | _ => false) = true then 1 else 0 :=
    fun k st h => by cases st <;> first | rfl | exact absurd rfl h
  have : ∀ (l : List St) (k : Nat), (∀ st ∈ l, st ≠ .connected) →
      counter k l = k + l.countP (fun st => match st with | .waitFail _ => true | _ => false) := by
    intro l
    induction l with
    | nil => intro k _; rfl
    | cons st l ih =>
      intro k hl
      rw [counter, ih _ fun x hx => hl x (List.mem_cons_of_mem _ hx), one k (hl st (by simp)),
        List.countP_cons]
      omega
  rw [counter_append]
  simpa [counter, count] using this post 0 hpost

/-- the checker rejects a sequence that restarts the doubling without a connection, one that
    does not restart after a connection, and a wrong `WaitAfterDisconnect` -/
example : conforms 10 80 0 [.disabled, .connecting, .waitFail 10, .connecting, .waitFail 20,
    .disabled, .connecting, .waitFail 10] = false := by decide +kernel
example : conforms 10 80 0 [.disabled, .connecting, .waitFail 10, .connecting, .connected,
    .waitDisc 10, .connecting, .waitFail 20] = false := by decide +kernel
example : conforms 10 80 0 [.disabled, .connecting, .connected, .waitDisc 20] = false := by decide +kernel
example : conforms 10 80 0 [.disabled, .connecting, .waitFail 10, .connecting, .waitFail 20,
    .disabled, .connecting, .waitFail 40, .connecting, .waitFail 80, .connecting, .waitFail 80,
    .connecting, .connected, .waitDisc 10, .connecting, .waitFail 10] = true := by decide +kernel

/-- a run with a disable / enable in the middle of a failure sequence (the counter is not reset),
    a connection lost in the middle of a session and a restart at the minimum -/
example :
    states (Life.run
      { retry := Retry.create 10 80,
        behaviours := [.refuse, .refuse, .hsfail, .serveN 1 true, .refuse, .serve] }
      [[.enable], [], [], [], [.disable], [.enable], [], [], [], [], [.request 1, .request 2],
       [], [], [], [], []]).1.log =
    [.disabled, .connecting, .waitFail 10, .connecting, .waitFail 20, .disabled, .connecting,
     .waitFail 40, .connecting, .connected, .waitDisc 10, .connecting, .waitFail 10,
     .connecting, .connected] := by decide +kernel

end Rodbus.C14Life
