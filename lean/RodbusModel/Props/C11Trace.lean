import RodbusModel.Props.C11
import RodbusModel.Props.C04
import RodbusModel.Lemmas.ClientCause
/-
  C11 / C04 at the level of whole runs: the cause of every completion.  Props/C11 states
  `mismatch_discarded`, `idle_dropped` and `stale_frame_never_accepted` for ONE tick of the task,
  Props/C04 what `handle_response` makes of a reply PDU; here the same for every completion in the
  log of every script.  The model has no ghost state: "the reader delivered frame `f` while `rid`
  was in flight" is `s0 ∈ runTrace …` (the states in which the task was polled,
  Lemmas/ClientRunInv), `s0.pos = .inflight m req tx dl`, `pollReader F s0 m = (.frame f, _)`.
-/
namespace Rodbus.Client

/-- Causality.  For every run and every completion `.done rid style res time` in its log whose
    result is derived from a reply (`Ok`, `Exception`, `BadResponse`): there is a state `s0` of the
    run in which request `req` with id `rid` was in flight with transaction id `tx` — the one it
    was written with, `(rid, tx, bytes) ∈ sent` — and in which the reader delivered a frame `f`
    whose transaction id matches `tx`; the completion was logged by the tick taken in `s0` (at
    `s0.now = time`), and its result is `handle_response` applied to the PDU of `f`. -/
theorem completion_caused_by_matching_frame {σ : Type} (F : Framing σ) (cap maxTo : Nat)
    (d : Decode) (coins : List Bool) (steps : List Step) (rid : Rid) (style : Style) (res : Res)
    (time : Nat) (hres : res.isReply = true)
    (h : LogEntry.done rid style res time
          ∈ (runState F (State.init F cap maxTo d coins) steps).log) :
    ∃ s0 ∈ runTrace F (State.init F cap maxTo d coins) steps,
    ∃ m req tx dl f s' bytes,
      s0.pos = .inflight m req tx dl ∧ req.rid = rid ∧ req.style = style ∧ s0.now = time
        ∧ pollReader F s0 m = (.frame f, s')
        ∧ txMatches f tx = true
        ∧ res = respResult req.req f.pdu
        ∧ (rid, tx, bytes) ∈ s0.sent
        ∧ (rid, tx, bytes) ∈ (runState F (State.init F cap maxTo d coins) steps).sent := by
  rcases completion_cause F cap maxTo d coins steps _ rfl h with h1 | ⟨s0, hs0, r, res', he, hc⟩
  · rcases h1.res with rfl | ⟨x, rfl⟩ <;> cases hres
  · cases he
    obtain ⟨m, tx, dl, f, s', hp, hpr, hmt, rfl⟩ := hc.reply hres
    obtain ⟨_, bytes, hb, hb'⟩ := runTrace_inflight_sent F cap maxTo d coins steps s0 hs0 hp
    exact ⟨s0, hs0, m, r, tx, dl, f, s', bytes, hp, rfl, rfl, rfl, hpr, hmt, rfl, hb, hb'⟩

/-- C11, `mismatch_discarded` for whole runs.  A frame whose transaction id differs from the id
    the request in flight was written with never becomes the reply-derived result (`Ok`,
    `Exception`, `BadResponse`) of ANY request: for every such completion of a run, the frame that
    caused it either carries no transaction id (RTU) or carries exactly the id `tx` of
    `(rid, tx, _) ∈ sent`, and it was delivered while `rid` was the request in flight. -/
theorem foreign_frame_never_result {σ : Type} (F : Framing σ) (cap maxTo : Nat) (d : Decode)
    (coins : List Bool) (steps : List Step) (rid : Rid) (style : Style) (res : Res) (time : Nat)
    (hres : res.isReply = true)
    (h : LogEntry.done rid style res time
          ∈ (runState F (State.init F cap maxTo d coins) steps).log) :
    ∃ s0 ∈ runTrace F (State.init F cap maxTo d coins) steps,
    ∃ m req tx dl f s' bytes,
      s0.pos = .inflight m req tx dl ∧ req.rid = rid
        ∧ (rid, tx, bytes) ∈ (runState F (State.init F cap maxTo d coins) steps).sent
        ∧ pollReader F s0 m = (.frame f, s')
        ∧ res = respResult req.req f.pdu
        ∧ ∀ t, f.tx = some t → t = tx := by
  obtain ⟨s0, hs0, m, req, tx, dl, f, s', bytes, h1, h2, _, _, h5, h6, h7, _, h9⟩ :=
    completion_caused_by_matching_frame F cap maxTo d coins steps rid style res time hres h
  refine ⟨s0, hs0, m, req, tx, dl, f, s', bytes, h1, h2, h9, h5, h7, ?_⟩
  intro t ht
  unfold txMatches at h6
  rw [ht] at h6
  simpa using h6

/-- "THE transaction id it was written with": when the request ids of the script are distinct, a
    request id occurs at most once in `sent`, so the `tx` (and frame) of
    `completion_caused_by_matching_frame` is the only one recorded for `rid`. -/
theorem written_txid_unique {σ : Type} (F : Framing σ) (cap maxTo : Nat) (d : Decode)
    (coins : List Bool) (steps : List Step) (hn : (scriptRids steps).Nodup) (rid : Rid)
    (tx tx' : Nat) (bytes bytes' : Bytes)
    (h1 : (rid, tx, bytes) ∈ (runState F (State.init F cap maxTo d coins) steps).sent)
    (h2 : (rid, tx', bytes') ∈ (runState F (State.init F cap maxTo d coins) steps).sent) :
    tx' = tx ∧ bytes' = bytes := by
  obtain ⟨f1, f2⟩ := fifo_order F cap maxTo d coins steps _ rfl
  have hacc := accepted_nodup F cap maxTo d coins steps hn
  have s1 := List.Sublist.map (fun x : Rid × Nat => x.1) f1
  rw [List.map_map] at s1
  have s2 : List.Sublist
      ((runState F (State.init F cap maxTo d coins) steps).sent.map fun x => x.1)
      (runState F (State.init F cap maxTo d coins) steps).accepted :=
    (s1.trans (List.sublist_append_right _ _)).trans f2
  have hnd := List.Nodup.sublist s2 hacc
  have := nodup_map_inj hnd h1 h2 rfl
  simp only [Prod.mk.injEq, true_and] at this
  exact ⟨this.1.symm, this.2.symm⟩

/-- C11, `idle_dropped` without the hypothesis `recvReady s = false`, for every state and every
    resolution of the polling order: a tick taken while NO request is in flight (idle session,
    `wait_for_enabled`, `fail_requests_for`, between phases) never completes a request with a
    reply-derived result — whatever the reader delivers in that tick. -/
theorem no_reply_completion_unless_inflight {σ : Type} (F : Framing σ) (s t : State σ)
    (hp : inflightIds s.pos = []) (h : tick F s = some t) (rid : Rid) (style : Style) (res : Res)
    (time : Nat) (hres : res.isReply = true) (hm : LogEntry.done rid style res time ∈ t.log) :
    LogEntry.done rid style res time ∈ s.log := by
  rcases tick_done_cause F s t h _ rfl hm with h1 | ⟨r, res', he, hc⟩
  · exact h1
  · cases he
    obtain ⟨m, tx, dl, _, _, hp', _⟩ := hc.reply hres
    rw [hp'] at hp; cases hp

/-- `idle_dropped` for both polling orders (no hypothesis on `recvReady`).  One turn of the idle
    loop that is handed a frame by the reader either consumes and drops it — nothing but the
    reader, the transport and the coins change: `core t = core s` — or, when `recv` was ready and
    `select!` polled it first (coin `false`), runs the queue branch on the state in which the
    frame has NOT been read (parser, buffer and transport as before the poll).  A request written
    in that branch goes through `startRequest`, whose discard loop drops every complete frame that
    is already buffered (`stale_frame_never_accepted`). -/
theorem idle_frame_dropped_any_order {σ : Type} (F : Framing σ) (s s' t : State σ) (m : Nat)
    (f : Frame) (hr : pollReader F s m = (.frame f, s')) (h : tickIdle F s m = some t) :
    (core t = core s ∧ (t = s' ∨ t = { s' with coins := (flip s).2.coins }))
      ∨ (recvReady s = true ∧ (flip s).1 = false ∧ sessionRecv F (flip s).2 m = some t
          ∧ (flip s).2.pst = s.pst ∧ (flip s).2.rb = s.rb ∧ (flip s).2.mocks = s.mocks) := by
  have hc : core s' = core s := by have := core_pollReader F s m; rw [hr] at this; exact this
  rw [tickIdle_eq, pollReader_flip, hr] at h
  dsimp only at h
  split at h
  · rename_i hq
    split at h
    · cases h
      exact .inl ⟨hc, .inr rfl⟩
    · rename_i hcoin
      obtain ⟨cs, e⟩ := flip_writes s
      exact .inr ⟨hq, by simpa using hcoin, h, by rw [e], by rw [e], by rw [e]⟩
  · cases h
    exact .inl ⟨hc, .inl rfl⟩

/-- C04 for whole runs, success.  If a run logs `Ok(v)` for request id `rid`, then a frame `f`
    was delivered while `rid` (request `req`) was in flight, with a matching transaction id;
    `req` is a request that `encodeRequest` accepted (`runTrace_inflightEnc`), `handle_response`
    returned `Ok(v)` on the PDU of `f`, and that PDU is the well-formed reply to `req` carrying
    exactly `v`.  The two remaining hypotheses are typing facts of the Rust code: the fields of the
    request are `u16` values and the PDU is a string of bytes (`< 256`). -/
theorem ok_completion_is_wellformed_reply {σ : Type} (F : Framing σ) (cap maxTo : Nat)
    (d : Decode) (coins : List Bool) (steps : List Step) (rid : Rid) (style : Style)
    (v : RespVal) (time : Nat)
    (h : LogEntry.done rid style (.ok v) time
          ∈ (runState F (State.init F cap maxTo d coins) steps).log) :
    ∃ s0 ∈ runTrace F (State.init F cap maxTo d coins) steps,
    ∃ m req tx dl f s' bytes,
      s0.pos = .inflight m req tx dl ∧ req.rid = rid
        ∧ (rid, tx, bytes) ∈ (runState F (State.init F cap maxTo d coins) steps).sent
        ∧ pollReader F s0 m = (.frame f, s') ∧ txMatches f tx = true
        ∧ (∃ pdu, encodeRequest req.req = .ok pdu)
        ∧ handleResponse req.req f.pdu = .ok v
        ∧ (req.req.FieldsU16 → Bytes.WF f.pdu → Spec.Client.WellFormedReply req.req f.pdu v) := by
  obtain ⟨s0, hs0, m, req, tx, dl, f, s', bytes, h1, h2, _, _, h5, h6, h7, _, h9⟩ :=
    completion_caused_by_matching_frame F cap maxTo d coins steps rid style _ time rfl h
  have hok := (respResult_ok_iff req.req f.pdu v).mp h7.symm
  obtain ⟨pdu, henc⟩ := (runTrace_inflightEnc F cap maxTo d coins steps).2 s0 hs0 m req tx dl h1
  refine ⟨s0, hs0, m, req, tx, dl, f, s', bytes, h1, h2, h9, h5, h6, ⟨pdu, henc⟩, hok, ?_⟩
  intro hf hw
  have hv : Spec.Client.ClientValid req.req :=
    (ClientPdu.rejection_none_iff req.req hf).1 (ClientPdu.encode_ok_spec henc).1
  exact (C04.success_iff hv hw).mp hok

/-- C04 for whole runs, exception.  If a run logs `Exception(c)` for request id `rid`, then a frame
    with a matching transaction id was delivered while `rid` was in flight and its PDU is exactly
    the exception reply `[fc + 128, c]` to that request (no hypothesis). -/
theorem exc_completion_is_exception_reply {σ : Type} (F : Framing σ) (cap maxTo : Nat)
    (d : Decode) (coins : List Bool) (steps : List Step) (rid : Rid) (style : Style)
    (c : Nat) (time : Nat)
    (h : LogEntry.done rid style (.exc c) time
          ∈ (runState F (State.init F cap maxTo d coins) steps).log) :
    ∃ s0 ∈ runTrace F (State.init F cap maxTo d coins) steps,
    ∃ m req tx dl f s' bytes,
      s0.pos = .inflight m req tx dl ∧ req.rid = rid
        ∧ (rid, tx, bytes) ∈ (runState F (State.init F cap maxTo d coins) steps).sent
        ∧ pollReader F s0 m = (.frame f, s') ∧ txMatches f tx = true
        ∧ Spec.Client.ExceptionReply req.req f.pdu c := by
  obtain ⟨s0, hs0, m, req, tx, dl, f, s', bytes, h1, h2, _, _, h5, h6, h7, _, h9⟩ :=
    completion_caused_by_matching_frame F cap maxTo d coins steps rid style _ time rfl h
  have hex := (respResult_exc_iff req.req f.pdu c).mp h7.symm
  exact ⟨s0, hs0, m, req, tx, dl, f, s', bytes, h1, h2, h9, h5, h6,
    (ClientPdu.exception_iff_spec req.req f.pdu c).mp hex⟩

namespace Example

/-- what the trace of a run shows of each state in which the task was polled: where the task is,
    and what the reader of transport 0 would deliver there -/
def view (tr : List (State Mbap.PState)) : List (List Rid × ReadRes) :=
  tr.map fun s => (inflightIds s.pos, (pollReader mbap s 0).1)

def bits55 : RespVal :=
  .bits [(0, true), (1, false), (2, true), (3, false), (4, true), (5, false), (6, true), (7, false)]

/-- A stale frame with a different transaction id (9, payload FF) arrives while `a` is in flight
    with id 0, then the genuine reply (id 0, payload 55).  The hypothesis of
    `completion_caused_by_matching_frame` holds (`a` completes with `Ok`), the trace contains both
    deliveries while `a` is in flight, and the result is `handle_response` of the SECOND frame,
    not of the first. -/
def staleThenReply : List Step :=
  [.newSession, .submit .R 0 (rc "a" .future 1000),
   .rx (.data [0, 9, 0, 0, 0, 4, 1, 1, 1, 0xFF]),
   .rx (.data [0, 0, 0, 0, 0, 4, 1, 1, 1, 0x55])]

example :
    (runState mbap s16 staleThenReply).log
        = [.done "a" .future (.ok bits55) 0, .tx [0, 0, 0, 0, 0, 6, 1, 1, 0, 0, 0, 8]]
      ∧ (runState mbap s16 staleThenReply).sent = [("a", 0, [0, 0, 0, 0, 0, 6, 1, 1, 0, 0, 0, 8])]
      ∧ view (runTrace mbap s16 staleThenReply)
        = [([], .blocked),                                  -- the session starts
           ([], .blocked),                                  -- idle: `a` is taken and written
           (["a"], .frame ⟨some 9, 1, [1, 1, 0xFF]⟩),        -- the stale frame: skipped
           (["a"], .frame ⟨some 0, 1, [1, 1, 0x55]⟩)]        -- the reply: the cause
      ∧ txMatches ⟨some 9, 1, [1, 1, 0xFF]⟩ 0 = false
      ∧ txMatches ⟨some 0, 1, [1, 1, 0x55]⟩ 0 = true
      ∧ respResult (rc "a" .future 1000).req [1, 1, 0x55] = .ok bits55
      ∧ respResult (rc "a" .future 1000).req [1, 1, 0xFF] ≠ .ok bits55 := by decide +kernel

/-- an exception reply: `Exception(2)` is logged and the cause is the frame `81 02` with id 0 -/
example :
    let script := [Step.newSession, .submit .R 0 (rc "a" .future 1000),
      .rx (.data [0, 0, 0, 0, 0, 3, 1, 0x81, 2])]
    (runState mbap s16 script).log.head? = some (.done "a" .future (.exc 2) 0)
      ∧ (view (runTrace mbap s16 script)).getLast? = some (["a"], .frame ⟨some 0, 1, [0x81, 2]⟩) := by
  decide +kernel

example : Spec.Client.ExceptionReply (rc "a" .future 1000).req [0x81, 2] 2 := by
  unfold Spec.Client.ExceptionReply; decide +kernel

/-- the hypotheses of `ok_completion_is_wellformed_reply` hold in that run, and so does its
    conclusion -/
example :
    (rc "a" .future 1000).req.FieldsU16 ∧ Bytes.WF [1, 1, 0x55]
      ∧ encodeRequest (rc "a" .future 1000).req = .ok [1, 0, 0, 0, 8] := by decide +kernel

example : Spec.Client.WellFormedReply (rc "a" .future 1000).req [1, 1, 0x55] bits55 :=
  ⟨1, [0x55], by decide +kernel⟩

/-- A frame delivered while the session is idle and `recv` is ready at the same instant (the
    lock-step script never stops in such a state — the tasks run until they block — so it is set
    up directly: one transport with a complete frame pending, one request queued): with either
    polling order no completion is logged; when the queue is polled first the request is written
    and in flight, and the frame has not been read. -/
example :
    let s0 := runState mbap s16 [.newSession]
    let s1 : State Mbap.PState :=
      { pushRx s0 (.data [0, 0, 0, 0, 0, 4, 1, 1, 1, 0x55]) with
        queue := [.req (rc "a" .future 1000)] }
    recvReady s1 = true
      ∧ (pollReader mbap s1 0).1 = .frame ⟨some 0, 1, [1, 1, 0x55]⟩
      ∧ ((tickIdle mbap { s1 with coins := [true] } 0).map (doneIds ·.log)) = some []
      ∧ ((tickIdle mbap { s1 with coins := [true] } 0).map (inflightIds ·.pos)) = some []
      ∧ ((tickIdle mbap { s1 with coins := [false] } 0).map (doneIds ·.log)) = some []
      ∧ ((tickIdle mbap { s1 with coins := [false] } 0).map (inflightIds ·.pos)) = some ["a"]
      ∧ ((tickIdle mbap { s1 with coins := [false] } 0).map (getMock · 0)) = some (getMock s1 0) := by
  decide +kernel

/-- RTU frames carry no transaction id: every frame delivered while a request is in flight
    matches (`txMatches … = true`), and the cause of the completion is that frame -/
example :
    let script := [Step.newSession, .submit .R 0 (rc "a" .future 1000),
      .rx (.data [1, 1, 1, 0x55, 0x91, 0xB7])]
    let init := State.init rtu 16 0 ⟨0, 0, 0⟩ []
    (runState rtu init script).log.head? = some (.done "a" .future (.ok bits55) 0)
      ∧ ((runTrace rtu init script).map fun s => (inflightIds s.pos, (pollReader rtu s 0).1)).getLast?
          = some (["a"], .frame ⟨none, 1, [1, 1, 0x55]⟩) := by
  decide +kernel

end Example

end Rodbus.Client
