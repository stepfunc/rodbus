import RodbusModel.Props.C05
import RodbusModel.Props.C06
import RodbusModel.Props.C01
import RodbusModel.Lemmas.ServerSession
/-
  C07 — No peer input can panic, wedge or silently kill a task: what a theorem can carry.

  Lean definitions are total, so "the model never gets stuck" is automatic; the content is
  *bounds* (at every arithmetic / indexing site mirrored from the Rust code the value fits its
  Rust type under the model's invariants, so the Rust expression neither wraps nor panics), *no
  internal error* from any reachable parser / session state (one returned without consuming input
  would make the idle client loop spin), and the *outcome* of a server session for every byte
  stream.  The logging / `Display` paths, tokio and the OS are not modelled: for them the claim
  rests on the differential runs (every suite under `catch_unwind`, overflow checks on, all
  decode levels).  The client side is in Props/C07Client.
-/
namespace Rodbus.C07

/-- `AddressIterator`, `BitIterator::next`, `RegisterIterator::next`, `collect_vec`:
    `start + pos` never exceeds `u16::MAX` for a validated range -/
theorem range_addresses_fit (s c : Nat) (r : Range) (h : Range.tryFrom s c = .ok r) (hc : c < 65536) :
    ∀ a ∈ r.addresses, a < 65536 := by
  obtain ⟨_, hle, rfl⟩ := (Range.tryFrom_ok_iff (Nat.le_of_lt hc) r).1 h
  intro a ha
  simp [Range.addresses] at ha
  obtain ⟨i, hi, rfl⟩ := ha
  omega

/-- the last address of a range may be exactly `u16::MAX`: the iterator must not increment past
    it with a checked `+= 1` (finding F13) -/
theorem last_address_may_be_max : (⟨65535, 1⟩ : Range).addresses = [65535] := rfl

theorem indexed_indices_fit {α : Type} (start : Nat) (vs : List α) (h : start + vs.length ≤ 65536) :
    ∀ p ∈ indexed start vs, p.1 < 65536 := by
  intro p hp
  have : p.1 ∈ (indexed start vs).map Prod.fst := List.mem_map_of_mem hp
  rw [indexed_indices] at this
  simp at this
  obtain ⟨i, hi, hp1⟩ := this
  omega

/-- `format_mbap`: `(end_pdu - start_pdu + 1) as u16` does not truncate -/
theorem mbap_length_field_fits (pdu : Bytes) (h : pdu.length ≤ 253) : pdu.length + 1 < 65536 := by
  omega

/-- `calc_bytes_for_bits` / `calc_bytes_for_registers`: `u8::try_from` succeeds within limits -/
theorem byte_counts_fit (n : Nat) :
    (n ≤ 2000 → numBytesForBits n ≤ 255) ∧ (n ≤ 125 → 2 * n ≤ 255) := by
  constructor
  · intro h; unfold numBytesForBits; omega
  · intro h; omega

/-- `ReadBuffer`: `begin ≤ end ≤ 260` in every reachable reader state (MBAP; the RTU reader
    keeps `end` through every parser call, `Rtu.refines`, and the loop keeps `end ≤ 260`, `Post` in Lemmas/Reader) -/
theorem read_buffer_indices_in_bounds {st : Mbap.PState} {rb : RB} (h : Mbap.Reach st rb) :
    rb.begin + rb.data.length ≤ CAP :=
  (reader_invariant h).1

/-- every reply PDU fits the 253-byte ADU limit, so `FrameWriter` never overflows its 260-byte
    buffer (no `InsufficientWriteSpace` internal error can end a session) -/
theorem reply_fits_writer {σ : Type} (fr : Framing) (cfg : ServerCfg σ) (hs : List (Nat × σ))
    (f : Frame) (pdu : Bytes) (h : (handleFrame cfg hs f).reply = some pdu) :
    (frameOut fr f pdu).length ≤ 260 := by
  have := C01.framed_reply_len cfg hs f pdu h
  cases fr
  · exact this.1
  · exact Nat.le_trans this.2 (by decide)

theorem reader_errors_are_protocol_errors (fr : Framing) (chunks : List Bytes) (e : FrameErr)
    (h : Event.err e ∈ readerRun fr chunks) : IsProtocolError e := by
  cases fr with
  | tcp =>
    rcases run_errors chunks e h with ⟨p, _, rfl⟩ | ⟨n, _, rfl⟩ | rfl <;> trivial
  | rtu =>
    rcases C06.run_errors .request chunks e h with ⟨fc, rfl⟩ | ⟨n, rfl⟩ | ⟨r, x, _, rfl⟩ <;> trivial

/-- for every byte stream, chunking, configuration and command sequence a
    server session ends because the peer closed, the transport failed, shutdown was requested,
    or with a *protocol* framing error — never with an internal error, and there is no other
    outcome -/
theorem session_outcome {σ : Type} (fr : Framing) (cfg : ServerCfg σ) (l : DecodeLevel)
    (hs : List (Nat × σ)) (script : List SessStep) :
    match (runSession fr cfg l hs script).ended with
    | .badFrame e => IsProtocolError e
    | _ => True := by
  rw [runSession_runFrames]
  rcases endOf_cases (cutScript script).2 (readerRun fr (cutScript script).1) with h | ⟨e, he, h⟩
  · simp only [h]
    cases hk : (cutScript script).2 with
    | badFrame e => exact absurd hk (cutScript_snd_ne_badFrame script e)
    | _ => trivial
  · simp only [h]
    exact reader_errors_are_protocol_errors fr _ e he

/-- shutdown is honoured whatever the peer sent before: once the `Shutdown` command is consumed
    the session ends with `shutdown` unless a framing error already ended it -/
theorem shutdown_honoured {σ : Type} (fr : Framing) (cfg : ServerCfg σ) (l : DecodeLevel)
    (hs : List (Nat × σ)) (chunks : List Bytes) (rest : List SessStep) :
    let o := runSession fr cfg l hs (chunks.map SessStep.data ++ [.shutdown] ++ rest)
    o.ended = .shutdown ∨ ∃ e, o.ended = .badFrame e ∧ IsProtocolError e := by
  have hc : cutScript (chunks.map SessStep.data ++ [.shutdown] ++ rest) = (chunks, .shutdown) := by
    rw [List.append_assoc, cutScript_data]; simp [cutScript]
  simp only [runSession_runFrames, hc]
  rcases endOf_cases .shutdown (readerRun fr chunks) with h | ⟨e, he, h⟩
  · exact .inl h
  · exact .inr ⟨e, h, reader_errors_are_protocol_errors fr _ e he⟩

/-- non-vacuity: garbage (a bad protocol id) ends the session with a protocol error -/
example : (runSession (σ := Unit) .tcp ⟨false, ⟨fun _ _ => .ok false, fun _ _ => .ok false,
    fun _ _ => .ok 0, fun _ _ => .ok 0, fun s _ _ => (.ok (), s), fun s _ _ => (.ok (), s),
    fun s _ _ => (.ok (), s), fun s _ _ => (.ok (), s)⟩, none⟩ {} []
    [.data [0, 1, 0xFF, 0xFF, 0, 2, 1, 3], .eof]).ended = .badFrame (.unknownProtocolId 65535) := by
  decide +kernel

end Rodbus.C07
