import RodbusModel.Props.C15Net
/-
  C09 / C15, connection level: **no service before admission**.

  In the accept-loop model (`ServerNet`, Model/ServerNet.lean) a connection accepted by a TLS
  server stays a *pending handshake*: the peers of the `net` suite never complete one (they write
  Modbus bytes into the raw socket), and `step` serves `request` / `pipeline` on plain TCP only.
  The clause of C09 "until all of this [handshake, certificate validation, role extraction] has
  succeeded no Modbus byte from that peer is processed" is, in this model: such a step on a TLS
  server is never answered `ok` and never counts a request as served, in every state reachable
  from `init … tls := true`.  The model has no handler: the `net` driver derives the number of
  handler calls from the number served (`served × calls-per-request`).
-/
namespace Rodbus.C15Net
open Rodbus.ServerNet Rodbus.Filter

def obsOk : Obs → Bool
  | .req _ r => r == "ok.982"
  | .pipe _ r _ => r == "ok"
  | _ => false

/-- number of requests the observation reports as served (each served request is one pass
    through `handle_frame`, the only place where handler calls are made; the driver of the `net`
    suite prints `calls = Σ served × calls-per-request`) -/
def obsServed : Obs → Nat
  | .req _ r => if r = "ok.982" then 1 else 0
  | .pipe _ _ cnt => cnt
  | _ => 0

def servedTotal (obs : List Obs) : Nat := (obs.map obsServed).foldl (· + ·) 0

theorem tls_constant_run (steps : List Step) (n : Net) : (ServerNet.run n steps).1.tls = n.tls :=
  run_preserves (P := fun m => m.tls = n.tls) (fun m s h => (step_frame m s).1.trans h) steps n rfl

/-- one step: on a TLS server a request is answered `closed` (or `noconn` for an unknown label),
    a pipelined step has 0 answered requests; the state does not change -/
theorem no_service_before_admission (n : Net) (h : n.tls = true) (k cnt : Nat) :
    ((ServerNet.step n (.request k)).2 = [.req k "closed"]
        ∨ (ServerNet.step n (.request k)).2 = [.req k "noconn"])
    ∧ ((ServerNet.step n (.pipeline k cnt)).2 = [.pipe k "closed" 0]
        ∨ (ServerNet.step n (.pipeline k cnt)).2 = [.pipe k "noconn" 0])
    ∧ (ServerNet.step n (.request k)).1 = n ∧ (ServerNet.step n (.pipeline k cnt)).1 = n := by
  rw [step_eq, step_eq, outputs, outputs, h, Bool.not_true, Bool.and_false,
    if_neg Bool.false_ne_true, if_neg Bool.false_ne_true]
  by_cases hl : lookup n k = none
  · rw [if_pos hl]; exact ⟨.inr rfl, .inr rfl, rfl, rfl⟩
  · rw [if_neg hl]; exact ⟨.inl rfl, .inl rfl, rfl, rfl⟩

/-- a TLS server reports no service: `request` and `pipeline` answer `ok` on an open plain-TCP
    connection only, and the observations of the other steps are of other kinds -/
theorem tls_step_not_served (n : Net) (h : n.tls = true) (s : Step) :
    ∀ o ∈ (ServerNet.step n s).2, obsOk o = false ∧ obsServed o = 0 := by
  rw [step_eq]
  cases s with
  | request k | pipeline k cnt =>
    rw [outputs, h, Bool.not_true, Bool.and_false, if_neg Bool.false_ne_true]
    split <;> exact List.forall_mem_singleton.mpr ⟨rfl, rfl⟩
  | connect k src | garbage k | probe k => exact List.forall_mem_singleton.mpr ⟨rfl, rfl⟩
  | setDecode | shutdown =>
    rw [outputs]
    split
    · exact List.forall_mem_singleton.mpr ⟨rfl, rfl⟩
    · exact fun _ ho => nomatch ho
  | close k | dropHandle => exact fun _ ho => nomatch ho

theorem tls_run_not_served (steps : List Step) (n : Net) (h : n.tls = true) :
    ∀ o ∈ (ServerNet.run n steps).2, obsOk o = false ∧ obsServed o = 0 := by
  induction steps generalizing n with
  | nil => exact fun _ ho => nomatch ho
  | cons s rest ih =>
    intro o ho
    rw [run_cons] at ho
    rcases List.mem_append.mp ho with ho | ho
    · exact tls_step_not_served n h s o ho
    · exact ih _ ((step_frame n s).1.trans h) o ho

/-- reachable states: whatever happened before on a TLS server — any `max_sessions`, any filter,
    any script `steps` — a request or a pipelined burst on ANY connection label is not answered
    `ok` and serves nothing -/
theorem no_service_before_admission_reachable (m : Nat) (f : AddressFilter) (steps : List Step)
    (k cnt : Nat) :
    let n := (ServerNet.run (init m f true) steps).1
    (∀ o ∈ (ServerNet.step n (.request k)).2, obsOk o = false ∧ obsServed o = 0)
    ∧ (∀ o ∈ (ServerNet.step n (.pipeline k cnt)).2, obsOk o = false ∧ obsServed o = 0)
    ∧ (ServerNet.step n (.request k)).2 ≠ [.req k "ok.982"]
    ∧ (ServerNet.step n (.pipeline k cnt)).2 ≠ [.pipe k "ok" cnt] := by
  intro n
  have hn : n.tls = true := tls_constant_run steps _
  have hno (s : Step) (o : Obs) (hok : obsOk o = true) : (ServerNet.step n s).2 ≠ [o] := fun he =>
    Bool.noConfusion ((tls_step_not_served n hn s o
      (by rw [he]; exact List.mem_singleton_self _)).1.symm.trans hok)
  exact ⟨tls_step_not_served n hn _, tls_step_not_served n hn _, hno _ _ rfl, hno _ _ rfl⟩

/-- the whole trace of a TLS server, for every script: no `ok` answer anywhere and the number of
    served requests (hence of handler calls) is 0 -/
theorem tls_trace_serves_nothing (m : Nat) (f : AddressFilter) (steps : List Step) :
    (∀ o ∈ (ServerNet.run (init m f true) steps).2, obsOk o = false)
    ∧ servedTotal (ServerNet.run (init m f true) steps).2 = 0 := by
  have h := tls_run_not_served steps (init m f true) rfl
  refine ⟨fun o ho => (h o ho).1, ?_⟩
  rw [servedTotal, ← List.sum_eq_foldl_nat, List.sum_eq_zero_iff_forall_eq_nat]
  intro x hx
  obtain ⟨o, ho, rfl⟩ := List.mem_map.1 hx
  exact (h o ho).2

/-- contrast (the clause is about TLS, not about the model being unable to serve): on a plain
    TCP server an open connection IS served — `request_answer`, `pipeline_answer` -/
theorem plain_tcp_is_served (n : Net) (k cnt : Nat) (h : isOpen n k = true) (ht : n.tls = false) :
    (∀ o ∈ (ServerNet.step n (.request k)).2, obsOk o = true ∧ obsServed o = 1)
    ∧ (∀ o ∈ (ServerNet.step n (.pipeline k cnt)).2, obsOk o = true ∧ obsServed o = cnt) := by
  rw [request_answer n k h ht, pipeline_answer n k cnt h ht]
  exact ⟨List.forall_mem_singleton.mpr ⟨rfl, rfl⟩, List.forall_mem_singleton.mpr ⟨rfl, rfl⟩⟩

/-- a TLS server: the peer is accepted (pending handshake, it occupies a session slot: `probe`
    says open), its requests are not served; the same script on plain TCP is served -/
example :
    (ServerNet.run (init 2 .any true)
      [.connect 1 (.v4 127 0 0 1), .probe 1, .request 1, .pipeline 1 5, .request 7]).2
      = [.conn 1 "open", .prob 1 "open", .req 1 "closed", .pipe 1 "closed" 0, .req 7 "noconn"]
    ∧ (ServerNet.run (init 2 .any false)
      [.connect 1 (.v4 127 0 0 1), .probe 1, .request 1, .pipeline 1 5, .request 7]).2
      = [.conn 1 "open", .prob 1 "open", .req 1 "ok.982", .pipe 1 "ok" 5, .req 7 "noconn"] := by
  decide +kernel

example : servedTotal [.conn 1 "open", .req 1 "ok.982", .pipe 1 "ok" 5, .req 7 "noconn"] = 6 := by
  decide +kernel

end Rodbus.C15Net
