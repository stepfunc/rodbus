import RodbusModel.Lemmas.Mbap
/-
  C05  MBAP framing is segmentation-independent and rejects malformed headers.

  Model: `Mbap.run chunks` = `FramedReader::tcp()` (`MbapParser` + `ReadBuffer`, the same reader in
  the client and in the server role) fed the network reads `chunks`.
  Specification: `Mbap.specFrames stream` (Spec/Mbap.lean), defined on the whole stream.
  The reader theorems come from `Mbap.refines` (Lemmas/Mbap.lean) and the generic reader theorem
  (Lemmas/Reader.lean).
-/
namespace Rodbus
open Mbap (Msg Reach)

/-- For every byte stream and every way of splitting it into network reads (1-byte reads, reads
    larger than the free space of the 260-byte buffer, empty reads = no-op), the buffered reader
    processes exactly the events of the whole stream: same frames, same results, same order. -/
theorem chunking_independent (chunks : List Bytes) :
    Mbap.run chunks = Mbap.specFrames chunks.flatten :=
  runChunks_spec Mbap.refines chunks .begin RB.empty (by simp [RB.empty]) trivial
    (by simp [Mbap.need, RB.empty])

theorem chunking_irrelevant (c1 c2 : List Bytes) (h : c1.flatten = c2.flatten) :
    Mbap.run c1 = Mbap.run c2 := by
  rw [chunking_independent, chunking_independent, h]

/-- In every reachable reader state the indices stay inside the 260-byte array
    (`end = begin + len ≤ capacity`) and a pending ADU length is at most 253. -/
theorem reader_invariant {st : Mbap.PState} {rb : RB} (h : Reach st rb) :
    rb.begin + rb.data.length ≤ CAP ∧ ∀ hd adu, st = .header hd adu → adu ≤ 253 := by
  obtain ⟨h1, h2⟩ := Mbap.reach_inv h
  exact ⟨h1, fun hd adu he => by subst he; exact h2⟩

/-- `Reach` covers the reader loop: from a reachable state, `pump` (any fuel, any delivery) blocks
    in a reachable state. -/
theorem pump_reachable {fuel : Nat} {st st' : Mbap.PState} {rb rb' : RB} {pend : Bytes}
    {es : List Event} (h : Reach st rb)
    (hp : pump Mbap.parse fuel st rb pend = (es, some (st', rb'))) : Reach st' rb' :=
  (Mbap.pump_reach fuel st rb pend h).2 st' rb' (by rw [hp])

/-- Whenever the reader loop, in any reachable state, gets `Ok(None)` from the parser and calls
    `read_some`, there is free space after the reset/compaction: the zero-length read that
    `read_some` would report as `UnexpectedEof` cannot happen. -/
theorem read_has_space {st st' : Mbap.PState} {rb rb' : RB} (h : Reach st rb)
    (hp : Mbap.parse st rb = (.none, st', rb')) (pend : Bytes) :
    readSome rb' pend ≠ none ∧ rb'.data.length < 253 := by
  obtain ⟨hi, hs⟩ := Mbap.reach_inv h
  obtain ⟨-, hs', hroom⟩ := Mbap.readSome_after_none st rb st' rb' pend hi hs hp
  have hn := Mbap.parse_sim st rb []
  rw [hp] at hn
  replace hn := hn.short
  refine ⟨hroom, ?_⟩
  cases st' <;> simp only [Mbap.need, Mbap.StOk] at hn hs' <;> omega

/-- The same at the level of the loop itself: from a reachable state, for any fuel and any
    delivery, `pump` never emits the spurious EOF. -/
theorem pump_read_has_space {st : Mbap.PState} {rb : RB} (h : Reach st rb) (fuel : Nat)
    (pend : Bytes) : Event.err .spuriousEof ∉ (pump Mbap.parse fuel st rb pend).1 :=
  (Mbap.pump_reach fuel st rb pend h).1

/-- Every error a run reports is one of the three header rejections. -/
theorem run_errors (chunks : List Bytes) (e : FrameErr) (h : Event.err e ∈ Mbap.run chunks) :
    (∃ p, p ≠ 0 ∧ e = .unknownProtocolId p) ∨ (∃ n, 254 < n ∧ e = .frameLengthTooBig n 254)
      ∨ e = .mbapLengthZero := by
  rw [chunking_independent] at h
  exact Mbap.specFrames_err_kind _ e h

theorem no_spurious_eof (chunks : List Bytes) : Event.err .spuriousEof ∉ Mbap.run chunks :=
  fun h => Mbap.HeaderErr.ne_spurious (run_errors chunks _ h) rfl

/-- No run reaches the `InsufficientBytesForRead` internal error of the cursor. -/
theorem no_internal_error (chunks : List Bytes) :
    Event.err .internalShortRead ∉ Mbap.run chunks :=
  fun h => Mbap.HeaderErr.ne_internal (run_errors chunks _ h) rfl

/-- `format_mbap` emits 7 header bytes plus the PDU, hence at most `MAX_FRAME_LENGTH` = 260 = the
    buffer capacity for a PDU of at most 253. -/
theorem format_length_le (tx unit : Nat) (pdu : Bytes) (h : pdu.length ≤ 253) :
    (Mbap.format tx unit pdu).length ≤ CAP := by
  rw [Mbap.format_length]; simp [CAP]; omega

theorem format_wf (m : Msg) (h : m.Valid) : Bytes.WF m.bytes :=
  Mbap.format_wf m.tx m.unit m.pdu h.2.1 h.2.2.2

/-- One formatted frame followed by anything: exactly that frame is delivered and the
    interpretation continues at the first byte after it. (The unit id and the PDU bytes are not
    constrained: they are copied, not interpreted.) -/
theorem specFrames_append_frame (tx unit : Nat) (pdu rest : Bytes) (htx : tx < 65536)
    (hp : pdu.length ≤ 253) :
    Mbap.specFrames (Mbap.format tx unit pdu ++ rest)
      = .frame ⟨some tx, unit, pdu⟩ :: Mbap.specFrames rest := by
  have h2 : be16 ((pdu.length + 1) / 256 % 256) ((pdu.length + 1) % 256) = pdu.length + 1 :=
    be16_u16be (by omega)
  rw [Mbap.specFrames_step (by rw [List.length_append, Mbap.format_length]; omega)]
  simp only [Mbap.format, u16be, List.cons_append, List.nil_append, List.take_succ_cons,
    List.take_zero, List.drop_succ_cons, List.drop_zero, Mbap.parseHeader_eq, be16_u16be htx, h2]
  rw [if_neg (by simp [be16]; omega)]
  simp [Mbap.specFrom]

theorem specFrames_append_frames (ms : List Msg) (hv : ∀ m ∈ ms, m.Valid) (rest : Bytes) :
    Mbap.specFrames ((ms.map Msg.bytes).flatten ++ rest)
      = ms.map Msg.event ++ Mbap.specFrames rest := by
  induction ms with
  | nil => simp
  | cons m ms ih =>
    have hm := hv m (by simp)
    simp only [List.map_cons, List.flatten_cons, List.append_assoc, List.cons_append]
    rw [Msg.bytes, specFrames_append_frame _ _ _ _ hm.1 hm.2.2.1,
      ih (fun x hx => hv x (by simp [hx]))]
    rfl

/-- Round trip: the concatenation of any sequence of formatted valid messages is cut back into
    exactly those messages, in order, none lost, none duplicated. -/
theorem frames_roundtrip (ms : List Msg) (hv : ∀ m ∈ ms, m.Valid) :
    Mbap.specFrames (ms.map Msg.bytes).flatten = ms.map Msg.event := by
  simpa [Mbap.specFrames_short] using specFrames_append_frames ms hv []

/-- … by the buffered reader under every chunking of exactly those bytes. -/
theorem frames_roundtrip_chunked (chunks : List Bytes) (ms : List Msg) (hv : ∀ m ∈ ms, m.Valid)
    (hc : chunks.flatten = (ms.map Msg.bytes).flatten) :
    Mbap.run chunks = ms.map Msg.event := by
  rw [chunking_independent, hc, frames_roundtrip ms hv]

/-- Converse (decode, then re-encode): for every byte stream, the frames delivered account for a
    prefix of the stream byte for byte — consecutive, disjoint, in order; the remainder `tail` is
    either an incomplete frame (nothing delivered from it) or begins with the rejected header
    whose error is the last event. -/
theorem no_loss_no_reread (s : Bytes) (hwf : Bytes.WF s) :
    ∃ tail, s = ((Mbap.specFrames s).map Mbap.eventBytes).flatten ++ tail
      ∧ (Mbap.specFrames tail = []
          ∨ ∃ e, Mbap.specFrames tail = [.err e]
              ∧ (Mbap.specFrames s).getLast? = some (.err e)) := by
  induction s using Mbap.specFrames_induct with
  | nil s h => exact ⟨s, by simp [h], .inl h⟩
  | err s e _ h => exact ⟨s, by simp [h, Mbap.eventBytes], .inr ⟨e, h, by simp [h]⟩⟩
  | frame hdr pdu rest tx u hfmt h ih =>
    obtain ⟨hwh, hwr⟩ := Bytes.WF_append.1 hwf
    obtain ⟨tail, ht1, ht2⟩ := ih hwr
    refine ⟨tail, ?_, ?_⟩
    · rw [h]
      simp only [List.map_cons, List.flatten_cons, Mbap.eventBytes, Option.getD_some]
      rw [hfmt (Bytes.WF_append.1 hwh).1, List.append_assoc _ _ tail, ← ht1]
    · rcases ht2 with ht | ⟨e, he1, he3⟩
      · exact .inl ht
      · exact .inr ⟨e, he1, by rw [h, List.getLast?_cons, he3]; rfl⟩

/-- A header (the 7 bytes at a frame boundary) with a non-zero protocol id, a zero length or a
    length above 254 yields exactly the corresponding error; nothing after it is interpreted,
    whatever follows. -/
theorem bad_header_ends_session (t1 t0 p1 p0 l1 l0 u : Nat) (rest : Bytes)
    (hbad : be16 p1 p0 ≠ 0 ∨ be16 l1 l0 = 0 ∨ 254 < be16 l1 l0) :
    Mbap.specFrames ([t1, t0, p1, p0, l1, l0, u] ++ rest)
      = [.err (Mbap.badHeaderErr (be16 p1 p0) (be16 l1 l0))] := by
  rw [Mbap.specFrames_step (by simp)]
  simp only [List.cons_append, List.nil_append, List.take_succ_cons, List.take_zero,
    Mbap.parseHeader_eq, if_pos hbad]

/-- non-zero protocol id (checked first) -/
theorem bad_protocol_id (t1 t0 p1 p0 l1 l0 u : Nat) (rest : Bytes) (h : be16 p1 p0 ≠ 0) :
    Mbap.specFrames ([t1, t0, p1, p0, l1, l0, u] ++ rest)
      = [.err (.unknownProtocolId (be16 p1 p0))] := by
  rw [bad_header_ends_session _ _ _ _ _ _ _ _ (.inl h)]; simp [Mbap.badHeaderErr, h]

/-- length field above `MAX_LENGTH_FIELD` = 254 -/
theorem bad_length_too_big (t1 t0 p1 p0 l1 l0 u : Nat) (rest : Bytes) (hp : be16 p1 p0 = 0)
    (h : 254 < be16 l1 l0) :
    Mbap.specFrames ([t1, t0, p1, p0, l1, l0, u] ++ rest)
      = [.err (.frameLengthTooBig (be16 l1 l0) 254)] := by
  rw [bad_header_ends_session _ _ _ _ _ _ _ _ (.inr (.inr h))]; simp [Mbap.badHeaderErr, hp, h]

theorem bad_length_zero (t1 t0 p1 p0 l1 l0 u : Nat) (rest : Bytes) (hp : be16 p1 p0 = 0)
    (h : be16 l1 l0 = 0) :
    Mbap.specFrames ([t1, t0, p1, p0, l1, l0, u] ++ rest) = [.err .mbapLengthZero] := by
  rw [bad_header_ends_session _ _ _ _ _ _ _ _ (.inr (.inl h))]; simp [Mbap.badHeaderErr, hp, h]

/-- The same after any number of valid frames: the frames are delivered, then the error, then
    nothing. -/
theorem bad_header_after_frames (ms : List Msg) (hv : ∀ m ∈ ms, m.Valid)
    (t1 t0 p1 p0 l1 l0 u : Nat) (rest : Bytes)
    (hbad : be16 p1 p0 ≠ 0 ∨ be16 l1 l0 = 0 ∨ 254 < be16 l1 l0) :
    Mbap.specFrames ((ms.map Msg.bytes).flatten ++ ([t1, t0, p1, p0, l1, l0, u] ++ rest))
      = ms.map Msg.event ++ [.err (Mbap.badHeaderErr (be16 p1 p0) (be16 l1 l0))] := by
  rw [specFrames_append_frames ms hv, bad_header_ends_session _ _ _ _ _ _ _ _ hbad]

/-- … and for the buffered reader under every chunking of such a stream. -/
theorem bad_header_ends_session_chunked (chunks : List Bytes) (ms : List Msg)
    (hv : ∀ m ∈ ms, m.Valid) (t1 t0 p1 p0 l1 l0 u : Nat) (rest : Bytes)
    (hbad : be16 p1 p0 ≠ 0 ∨ be16 l1 l0 = 0 ∨ 254 < be16 l1 l0)
    (hc : chunks.flatten = (ms.map Msg.bytes).flatten ++ ([t1, t0, p1, p0, l1, l0, u] ++ rest)) :
    Mbap.run chunks
      = ms.map Msg.event ++ [.err (Mbap.badHeaderErr (be16 p1 p0) (be16 l1 l0))] := by
  rw [chunking_independent, hc, bad_header_after_frames ms hv _ _ _ _ _ _ _ _ hbad]

/-- `SIMPLE_FRAME` of the unit tests in tcp/frame.rs -/
private def simpleFrame : Bytes := [0x00, 0x07, 0x00, 0x00, 0x00, 0x04, 0x2A, 0x01, 0xCA, 0xFE]
private def simpleEvent : Event := .frame ⟨some 7, 0x2A, [0x01, 0xCA, 0xFE]⟩

/-- `correctly_formats_frame` -/
example : Mbap.format 7 42 [0x01, 0xCA, 0xFE] = simpleFrame := by decide +kernel

/-- `can_parse_frame_from_stream` -/
example : Mbap.run [simpleFrame] = [simpleEvent] := by decide +kernel

/-- `can_parse_frame_if_segmented_in_header` (split at 4) -/
example : Mbap.run [simpleFrame.take 4, simpleFrame.drop 4] = [simpleEvent] := by decide +kernel

/-- `can_parse_frame_if_segmented_in_payload` (split at 8) -/
example : Mbap.run [simpleFrame.take 8, simpleFrame.drop 8] = [simpleEvent] := by decide +kernel

/-- two frames in 1-byte reads -/
example : Mbap.run ((simpleFrame ++ simpleFrame).map fun b => [b]) = [simpleEvent, simpleEvent] := by
  decide +kernel

/-- an empty read in between; the second frame stays incomplete -/
example : Mbap.run [simpleFrame.take 3, [], simpleFrame.drop 3 ++ simpleFrame.take 9] = [simpleEvent] := by
  decide +kernel

/-- `errors_on_bad_protocol_id`, after one good frame and with trailing bytes -/
example : Mbap.run [simpleFrame ++ [0x00, 0x07, 0xCA, 0xFE], [0x00, 0x01, 0x2A] ++ simpleFrame]
    = [simpleEvent, .err (.unknownProtocolId 0xCAFE)] := by decide +kernel

/-- `errors_on_length_of_zero` -/
example : Mbap.run [[0x00, 0x07, 0x00, 0x00, 0x00, 0x00, 0x2A]] = [.err .mbapLengthZero] := by decide +kernel

/-- `errors_when_mbap_length_too_big` -/
example : Mbap.run [[0x00, 0x07, 0x00, 0x00, 0x00, 0xFF, 0x2A]]
    = [.err (.frameLengthTooBig 255 254)] := by decide +kernel

/-- the protocol id is checked before the length -/
example : Mbap.run [[0x00, 0x07, 0x00, 0x01, 0xFF, 0xFF, 0x2A]] = [.err (.unknownProtocolId 1)] := by
  decide +kernel

/-- `can_parse_maximum_size_frame`: length field 254, header and 253-byte payload in two reads;
    the frame fills the 260-byte buffer exactly -/
example : Mbap.run [[0x00, 0x07, 0x00, 0x00, 0x00, 0xFE, 0x2A], List.replicate 253 0xCC]
    = [.frame ⟨some 7, 0x2A, List.replicate 253 0xCC⟩] := by decide +kernel

/-- an 8-byte frame followed by 26 `SIMPLE_FRAME`s = 268 bytes -/
private def shortFrame : Bytes := [0x00, 0x09, 0x00, 0x00, 0x00, 0x02, 0x01, 0x11]
private def longStream : Bytes := shortFrame ++ (List.replicate 26 simpleFrame).flatten
private def longEvents : List Event := .frame ⟨some 9, 1, [0x11]⟩ :: List.replicate 26 simpleEvent

/-- one delivery larger than the buffer: `read_some` takes 260 bytes, the 27th frame straddles the
    end of the buffer (2 bytes at offset 258), the buffer is compacted and the rest is read -/
example : Mbap.run [longStream] = longEvents := by decide +kernel

/-- the compaction step of that run in isolation -/
example : readSome ⟨258, [0x00, 0x07]⟩ [0, 0, 0, 4, 0x2A, 1, 0xCA, 0xFE]
    = some (⟨0, [0x00, 0x07, 0, 0, 0, 4, 0x2A, 1, 0xCA, 0xFE]⟩, []) := by decide +kernel

/-- a 300-byte delivery into the empty buffer is cut at the capacity -/
example : readSome RB.empty (List.replicate 300 0)
    = some (⟨0, List.replicate 260 0⟩, List.replicate 40 0) := by decide +kernel

/-- the same stream split at 256: the second read has 12 bytes for 4 bytes of free space -/
example : Mbap.run [longStream.take 256, longStream.drop 256] = longEvents := by decide +kernel

/-- the same stream in 1-byte reads -/
example : Mbap.run (longStream.map fun b => [b]) = longEvents := by decide +kernel

/-- Scope of `Mbap.run`: one reader instance from its initial state, that is one connection
    (`ClientLoop::run` and `SessionTask::run` begin with `FramedReader::reset`).  A reader kept
    across connections would continue from its blocked state (`runChunks_spec Mbap.refines`):
    here the state left by a reply truncated one byte before its end,
    `00 01 00 00 00 05 01 03 02 BE`, followed by the complete reply `… 12 34` of the next
    connection.  The request would return 0xBE00, then `FrameLengthTooBig(1281)`. -/
example : runChunks Mbap.parse (.header ⟨1, 5, 1⟩ 4) ⟨7, [0x03, 0x02, 0xBE]⟩
      [[0x00, 0x01, 0x00, 0x00, 0x00, 0x05, 0x01, 0x03, 0x02, 0x12, 0x34]]
    = [.frame ⟨some 1, 1, [0x03, 0x02, 0xBE, 0x00]⟩, .err (.frameLengthTooBig 1281 254)] := by
  decide +kernel

/-- the hypotheses of `frames_roundtrip` / `bad_header_after_frames` are satisfiable -/
example : (⟨7, 0x2A, [0x01, 0xCA, 0xFE]⟩ : Msg).Valid := by
  refine ⟨by decide +kernel, by decide +kernel, by decide +kernel, by decide +kernel⟩

/-- a reachable reader state in the middle of a frame (after a read of the first 8 bytes) -/
example : Reach (.header ⟨7, 4, 0x2A⟩ 3) ⟨7, [0x01]⟩ := by
  have h1 : Reach .begin ⟨0, simpleFrame.take 8⟩ :=
    .read (st' := .begin) (rb' := RB.empty) (pend := simpleFrame.take 8) (pend' := []) .init
      (by decide) (by decide)
  exact .block h1 (by decide)

end Rodbus
