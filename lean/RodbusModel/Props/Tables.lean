import RodbusModel.Lemmas.Server
import RodbusModel.Gen.Tables
/-
  The hand-written model against the tables generated from the Rust source (Gen/Tables.lean is
  rewritten by tools/translate.py on every run): function codes, exception codes, limits,
  broadcast support.  The tables are compared by evaluation; the two if-cascades (`Fc.ofByte`,
  `ExCode.ofByte`) through their lookup forms, for every byte at once.  (The authorization tables are
  in Props/C08.lean.)
-/
namespace Rodbus.Tables
open Rodbus Rodbus.Spec.Server

/-- `FunctionCode::get` / `get_value`: for every byte the model's `Fc.ofByte` is the lookup in the
    generated table, and `Fc.toByte` is the generated discriminant -/
theorem fc_table_correct :
    (∀ b < 256, Fc.ofByte b = Gen.fcGet.lookup b) ∧ (∀ fc, Gen.fcValue.lookup fc = some fc.toByte) := by
  refine ⟨fun b _ => Fc.ofByte_lookup b, fun fc => by cases fc <;> rfl⟩

theorem fc_ofByte_large (b : Nat) (h : 256 ≤ b) : Fc.ofByte b = none := by
  rw [Fc.ofByte_lookup, List.lookup_eq_none_iff]
  intro p hp
  obtain ⟨fc, _, rfl⟩ := List.mem_map.1 hp
  have := Fc.toByte_lt fc
  exact bne_iff_ne.2 (by omega)

/-- `FunctionCode::as_error` ors the literal `0x80` into the value; the translator extracts it as
    `Gen.errorMask` -/
theorem error_mask_correct : Gen.errorMask = 0x80 ∧ ∀ fc : Fc, orErr fc.toByte = fc.toByte ||| Gen.errorMask := by
  refine ⟨rfl, fun fc => by cases fc <;> decide⟩

/-- `ExceptionCode` ↔ u8: the conversion round-trips on every byte, and agrees with the generated
    tables (listed bytes ↦ named variants, everything else ↦ `Unknown(b)`) -/
theorem exception_roundtrip :
    (∀ b < 256, (ExCode.ofByte b).toByte = b)
    ∧ (∀ b < 256, ExCode.ofByte b = (Gen.exOfByte.lookup b).getD (.unknown b))
    ∧ (∀ p ∈ Gen.exToByte, p.1.toByte = p.2)
    ∧ (∀ b, (ExCode.unknown b).toByte = b) :=
  ⟨fun b _ => ExCode.toByte_ofByte b, fun b _ => ExCode.ofByte_lookup id b, by decide, fun _ => rfl⟩

/-- the limits of constants.rs are the ones the model uses -/
theorem limits_correct :
    Gen.maxReadCoils = MAX_READ_COILS_COUNT ∧ Gen.maxReadRegisters = MAX_READ_REGISTERS_COUNT
    ∧ Gen.maxWriteCoils = MAX_WRITE_COILS_COUNT ∧ Gen.maxWriteRegisters = MAX_WRITE_REGISTERS_COUNT
    ∧ Gen.coilOn = COIL_ON ∧ Gen.coilOff = COIL_OFF ∧ Gen.maxAduLength = 253 := by decide

/-- the quantity limit `Request::parse` applies per function (generated from request.rs /
    types.rs) is the one `parseRequest` — equivalently `validBody` — applies: 2000, 2000, 125, 125,
    none for the single writes, 1968, 123 -/
theorem server_limits_correct :
    Gen.serverLimit =
      [(.readCoils, some MAX_READ_COILS_COUNT), (.readDiscreteInputs, some MAX_READ_COILS_COUNT),
       (.readHoldingRegisters, some MAX_READ_REGISTERS_COUNT),
       (.readInputRegisters, some MAX_READ_REGISTERS_COUNT),
       (.writeSingleCoil, none), (.writeSingleRegister, none),
       (.writeMultipleCoils, some MAX_WRITE_COILS_COUNT),
       (.writeMultipleRegisters, some MAX_WRITE_REGISTERS_COUNT)] := rfl

/-- …and the limit is sharp in the model: for every function with a limit `L`, quantity `L` at
    address 0 is accepted and `L + 1` rejected -/
theorem server_limits_sharp :
    ∀ p ∈ Gen.serverLimit, ∀ L, p.2 = some L →
      (∃ body, validBody p.1 body = true ∧ u16At body 2 = L)
      ∧ (∀ body, u16At body 2 = L + 1 → validBody p.1 body = false) := by
  intro p hp L hL
  simp only [Gen.serverLimit, List.mem_cons, List.not_mem_nil, or_false] at hp
  rcases hp with rfl | rfl | rfl | rfl | rfl | rfl | rfl | rfl <;>
    simp only [Option.some.injEq, reduceCtorEq] at hL <;> subst hL <;>
    refine ⟨?_, fun body h => by simp [validBody, h]⟩
  · exact ⟨[0, 0, 7, 208], by decide, by decide⟩
  · exact ⟨[0, 0, 7, 208], by decide, by decide⟩
  · exact ⟨[0, 0, 0, 125], by decide, by decide⟩
  · exact ⟨[0, 0, 0, 125], by decide, by decide⟩
  · refine ⟨0 :: 0 :: 7 :: 176 :: 246 :: List.replicate 246 0, ?_, rfl⟩
    simp only [validBody, u16At_zero, u16At_two, be16, List.length_cons, List.length_replicate]
    decide
  · refine ⟨0 :: 0 :: 0 :: 123 :: 246 :: List.replicate 246 0, ?_, rfl⟩
    simp only [validBody, u16At_zero, u16At_two, be16, List.length_cons, List.length_replicate]
    decide

/-- `Request::get_function` (generated): identity on kinds, as `Request.fc` of a decoded request -/
theorem request_function_correct :
    (∀ p ∈ Gen.requestFunction, p.1 = p.2) ∧ ∀ fc body, (decode fc body).fc = fc :=
  ⟨by decide, decode_fc⟩

/-- `into_broadcast_request` (generated): `Some` exactly for the four writes (mapped to the
    broadcast request of the same kind) — exactly the requests `executeBroadcast` executes, and
    exactly `isWrite` of the reference server -/
theorem broadcast_table_correct {σ : Type} (H : Handler σ) (u : Nat) (s : σ) (req : Request) :
    ∃ e, Gen.broadcastTable.lookup req.fc = some e
      ∧ e.isSome = (executeBroadcast H u s req).isSome
      ∧ (∀ fc', e = some fc' → fc' = req.fc)
      ∧ (executeBroadcast H u s req).isSome = isWrite req := by
  cases req <;> exact ⟨_, rfl, rfl, by simp [Request.fc], rfl⟩

end Rodbus.Tables
