import RodbusModel.Lemmas.Ffi
import RodbusModel.Lemmas.ClientPdu
import RodbusModel.Gen.FfiTables
/-
  C18 — The C ABI reports and forwards exactly what the Rust API would.

  The table theorems (the statements that mention `Gen.Ffi.…`) compare a table GENERATED from the
  current Rust sources (`Gen/FfiTables.lean`, regenerated by translate.py on every run) with the
  hand-written expected same-named table of `Model/Ffi.lean`; a changed or wrong `match` arm in
  the sources breaks the corresponding evaluation (a reordering of arms does not).  The other
  theorems speak of the hand-written model alone, or compare it with the reference tables of
  `Spec/Ffi.lean`; they, and behaviour that is not a table (queues, promises dropped by the
  runtime, sockets), are tied to the code by the `ffi tab / wres / op` correspondence runs.
-/
namespace Rodbus.C18
open Rodbus.Ffi

/-- every `rodbus::RequestError` variant is converted to its same-named counterpart,
    `Exception(ex)` goes through the exception table, and there is no other arm -/
theorem error_table :
    (∀ k : RustErrTag, Gen.Ffi.requestErrorArms.lookup k.name = some (reqErrOf k.toErr).name) ∧
    Gen.Ffi.requestErrorArms.lookup "Exception" = some "@exception.into()" ∧
    Gen.Ffi.requestErrorArms.length = RustErrTag.all.length + 1 := by
  rw [forall_iff_mem RustErrTag.mem_all]
  decide +kernel

/-- every `ExceptionCode` (the nine named ones and `Unknown(b)` for every `b`) is converted to
    the error named after it -/
theorem exception_table :
    (∀ e : ExCode, Gen.Ffi.exceptionArms.lookup (exName e) = some (excErrOf e).name) ∧
    (∀ e : ExCode, (excErrOf e).name = "ModbusException" ++ exName e) ∧
    Gen.Ffi.exceptionArms.length = namedExCodes.length + 1 := by
  rw [← and_assoc, ← forall_and]
  exact ⟨forall_exCode (fun _ h => h) (by decide +kernel), rfl⟩

/-- the expected rows of a Rust → C conversion: (Rust variant, C-ABI variant) -/
def rustToC (t : EnumTable) : List (String × String) := t.map fun r => (r.2.2, r.2.1)
/-- the expected rows of a C → Rust conversion: (C-ABI variant, Rust variant) -/
def cToRust (t : EnumTable) : List (String × String) := t.map fun r => (r.2.1, r.2.2)

/-- client and port states reach the C listener as their same-named counterparts, and the
    listener wrappers forward exactly the converted value -/
theorem state_tables :
    sameRows Gen.Ffi.clientStateArms (rustToC clientState) = true ∧
    sameRows Gen.Ffi.portStateArms (rustToC portState) = true ∧
    (clientState ++ portState).all (fun r => sameNamed r.2.1 r.2.2) = true ∧
    Gen.Ffi.listenerForward =
      [("ClientStateListener", "self.inner.on_change(value.into())"),
       ("PortStateListener", "self.inner.on_change(value.into())")] := by
  decide +kernel

/-- all 4 × 3 × 3 decode levels are converted field by field to the same-named level -/
theorem decode_tables :
    sameRows Gen.Ffi.appDecodeArms (cToRust appDecodeLevels) = true ∧
    sameRows Gen.Ffi.frameDecodeArms (cToRust frameDecodeLevels) = true ∧
    sameRows Gen.Ffi.physDecodeArms (cToRust physDecodeLevels) = true ∧
    Gen.Ffi.decodeLevelFields = [("app", "app"), ("frame", "frame"), ("physical", "physical")] ∧
    (appDecodeLevels ++ frameDecodeLevels ++ physDecodeLevels).all (fun r => sameNamed r.2.1 r.2.2) = true := by
  decide +kernel

/-- serial port settings pass field by field, every enum to its same-named value, the baud rate
    unchanged -/
theorem serial_tables :
    sameRows Gen.Ffi.dataBitsArms (cToRust dataBits) = true ∧
    sameRows Gen.Ffi.flowControlArms (cToRust flowControl) = true ∧
    sameRows Gen.Ffi.parityArms (cToRust parity) = true ∧
    sameRows Gen.Ffi.stopBitsArms (cToRust stopBits) = true ∧
    Gen.Ffi.serialSettingsFields =
      [("baud_rate", "baud_rate"), ("data_bits", "data_bits"), ("flow_control", "flow_control"),
       ("parity", "parity"), ("stop_bits", "stop_bits")] ∧
    (dataBits ++ flowControl ++ parity ++ stopBits).all (fun r => sameNamed r.2.1 r.2.2) = true := by
  decide +kernel

theorem tls_enum_tables :
    sameRows Gen.Ffi.minTlsVersionArms (cToRust minTlsVersion) = true ∧
    sameRows Gen.Ffi.certificateModeArms (cToRust certificateMode) = true ∧
    sameRows Gen.Ffi.authorizationArms (cToRust authorization) = true ∧
    (minTlsVersion ++ certificateMode ++ authorization).all (fun r => sameNamed r.2.1 r.2.2) = true := by
  decide +kernel

/-- every conversion into `ParamError` (invalid range / request, address and wildcard parse
    errors, UTF-8, shutdown, TLS configuration errors, queue full / closed, runtime errors)
    yields the expected code -/
theorem param_error_table : sameRows Gen.Ffi.paramErrorArms expectedParamErrors = true := by
  decide +kernel

/-- how an arm of `convert_to_result` has to read for `ModbusException` variant `m` -/
def expectedConversionArm : MxCode → String
  | .unknown => "Unknown(raw)"
  | m => m.name

/-- success ↦ ok; a standard exception ↦ that exception; a raw exception ↦ `Unknown(raw)` — in
    the sources (generated arms) and in the model -/
theorem write_result_conversion :
    Gen.Ffi.convertToResultSuccessFirst = true ∧
    (∀ m : MxCode, Gen.Ffi.convertToResultArms.lookup m.name = some (expectedConversionArm m)) ∧
    Gen.Ffi.convertToResultArms.length = MxCode.all.length ∧
    convertToResult .successInit = .ok () ∧
    (∀ m : MxCode, convertToResult (.exceptionInit m) = .error (m.toEx 0)) ∧
    (∀ m : MxCode, ∀ raw, m ≠ .unknown → exName (m.toEx raw) = m.name ∧ (m.toEx raw).toByte = m.toInt) ∧
    (∀ b : Nat, convertToResult (.rawExceptionInit b) = .error (.unknown b)) := by
  refine ⟨rfl, (forall_iff_mem MxCode.mem_all _).mpr (by decide +kernel), rfl, rfl, fun _ => rfl, ?_,
    fun _ => rfl⟩
  intro m raw hm
  cases m <;> first | exact ⟨rfl, rfl⟩ | exact absurd rfl hm

/-- the four write methods of `RequestHandlerWrapper` -/
def writeMethods : List String :=
  ["write_single_coil", "write_single_register", "write_multiple_coils", "write_multiple_registers"]

/-- each of the four write callbacks invokes the C callback of its own name and returns
    `x.convert_to_result()` (a missing callback ↦ IllegalFunction) -/
theorem write_callbacks_use_conversion :
    sameRows Gen.Ffi.writeCallbackArms
      (writeMethods.map fun m => (m, m, "x.convert_to_result()", "Err(ExceptionCode::IllegalFunction)")) = true := by
  decide +kernel

/-- every server constructor of the C ABI hands the caller's filter object, converted variant by
    variant, to the library constructor it ends in -/
theorem forwards_filter :
    (∀ c : ServerCtor,
      ((Gen.Ffi.ctorSpawn.lookup c.fnName).bind fun s => Gen.Ffi.spawnFilterArg.lookup s) = some "filter.into()") ∧
    Gen.Ffi.filterIsCallersObject = true ∧
    sameRows Gen.Ffi.filterConversionArms
      [("Any", "Any"), ("AnyOf", "AnyOf(set.clone())"), ("WildcardIpv4", "WildcardIpv4(*wc)")] = true := by
  rw [forall_iff_mem ServerCtor.mem_all]
  decide +kernel

/-- consequence in the model: through every constructor a peer is served iff the caller's filter
    admits it -/
theorem served_iff_filter (c : ServerCtor) (f : Filter.AddressFilter) (peer : Filter.Addr) :
    served c f peer = f.matches peer := rfl

/-- unit id, timeout, ranges, indexed values and the retry bounds are copied field by field -/
theorem pass_through :
    Gen.Ffi.passThrough =
      [("BitValue", "rodbus::Indexed::new(x.index, x.value)"),
       ("RegisterValue", "rodbus::Indexed::new(x.index, x.value)"),
       ("AddressRange", "ffi::AddressRange { start: x.start, count: x.count, }"),
       ("RetryStrategy", "rodbus::doubling_retry_strategy(from.min_delay(), from.max_delay())"),
       ("RequestParam", "Self { id: UnitId::new(value.unit_id), response_timeout: value.timeout(), }")] :=
  rfl

def clientOps : List String :=
  ["read_coils", "read_discrete_inputs", "read_holding_registers", "read_input_registers",
   "write_single_coil", "write_single_register", "write_multiple_coils", "write_multiple_registers"]

/-- each `rodbus_client_channel_<op>` forwards to the `FfiChannel` method of the same name -/
theorem client_forward : sameRows Gen.Ffi.clientForward (clientOps.map fun o => (o, o)) = true := by
  decide +kernel

/-- the three callback types complete with `Shutdown` when dropped un-completed and hand a
    failure to `on_failure` through the error table -/
theorem promise_table :
    sameRows Gen.Ffi.promiseArms
      (["BitReadCallback", "RegisterReadCallback", "WriteCallback"].map fun c =>
        (c, "Err(rodbus::RequestError::Shutdown)", "self.on_failure(err.into());")) = true := by
  decide +kernel

/-- in each of the eight operations the callback is wrapped into the drop-safe promise before
    the first point at which the function can return early, so that no path drops it un-fired
    (finding F9 while this fails) -/
theorem callbacks_wrapped_first :
    sameRows Gen.Ffi.wrappedBeforeFallible (clientOps.map fun o => (o, "true")) = true := by
  decide +kernel

/-- for every submission outcome (accepted, null argument, invalid range, invalid request, queue
    full, channel closed) and every way the task can end an accepted request (success, any
    error, promise dropped) exactly one of `on_complete` / `on_failure` fires, once, followed by
    exactly one `on_destroy` -/
theorem callback_exactly_once (s : Submit) (t : TaskEnd) :
    (fire s t).complete + (fire s t).failure = 1 ∧ (fire s t).destroy = 1 ∧
    (fire s t).result.length = 1 := by
  unfold fire
  split
  · exact ⟨rfl, rfl, rfl⟩
  · split <;> exact ⟨rfl, rfl, rfl⟩

/-- a failed submission reports an error through the callback as well (never a success), and an
    accepted one reports exactly what the task produced -/
theorem callback_reports (s : Submit) (t : TaskEnd) :
    (s ≠ .accepted → (fire s t).complete = 0 ∧ (fire s t).result = [(s.callbackError).getD ""]) ∧
    (s = .accepted → ∀ e, t = .error e → (fire s t).result = [(reqErrOf e).name]) := by
  refine ⟨fun h => ?_, fun h e ht => by rw [h, ht]; rfl⟩
  cases s <;> first | exact absurd rfl h | exact ⟨rfl, rfl⟩

/-- for all 256 bytes `b` and every one of the eight operations, an exception reply
    `[fc | 0x80, b]` is decoded by the client as exception `b` and reaches the C callback —
    exactly once — as the error named after `ExCode.ofByte b`; bytes that are not a standard code
    arrive as `ModbusExceptionUnknown` -/
theorem exception_roundtrip (creq : ClientReq) (b : Nat) (_hb : b < 256) :
    handleResponse creq (exceptionPdu creq.fc.toByte b) = .error (.exception b) ∧
    fire .accepted (.error (.exception (ExCode.ofByte b))) =
      { failure := 1, destroy := 1, result := [(excErrOf (ExCode.ofByte b)).name] } ∧
    Gen.Ffi.exceptionArms.lookup (exName (ExCode.ofByte b)) = some (excErrOf (ExCode.ofByte b)).name ∧
    ((∀ e ∈ namedExCodes, e.toByte ≠ b) → excErrOf (ExCode.ofByte b) = .mxUnknown) ∧
    (∀ e ∈ namedExCodes, e.toByte = b → excErrOf (ExCode.ofByte b) = excErrOf e) := by
  have named : ∀ e ∈ namedExCodes, ExCode.ofByte e.toByte = e := by decide +kernel
  refine ⟨ClientPdu.handle_exception_pdu creq b, rfl, exception_table.1 _, ?_, ?_⟩
  · intro h
    rcases named_or_unknown (ExCode.ofByte b) with hn | ⟨_, hu⟩
    · exact absurd (ExCode.toByte_ofByte b) (h _ hn)
    · rw [hu]; rfl
  · intro e he hb
    rw [← hb, named e he]

/-- the same against the reference table of exception names (`Spec.exceptionNames`): the error is
    named after the table's entry for `b`, and `Unknown` where the table has none -/
theorem exception_roundtrip_all_bytes :
    ∀ b < 256, (excErrOf (ExCode.ofByte b)).name =
      "ModbusException" ++ ((Spec.exceptionNames.lookup b).getD "Unknown") :=
  fun b _ => (exception_table.2.1 _).trans (congrArg _ (ExCode.ofByte_lookup exName b))

/-- the write result chosen by the application is what the client's callback receives: model of
    the whole path handler → wire byte → client → C callback for the three kinds of result -/
theorem write_result_reaches_client (w : WriteResult) :
    (w.success = true → toWire (convertToResult w) = .ok ()) ∧
    (w.success = false → toWire (convertToResult w) = .error (w.exception.toEx w.raw).toByte) := by
  constructor <;> intro h <;> simp [convertToResult, h, toWire]

/-- the register callback and (as expected of all four) the coil callback return the
    application's exception: IllegalDataValue stays IllegalDataValue -/
example :
    let app := fun w : WriteResult => (⟨some fun db _ _ => (w, db), some fun db _ _ => (w, db), none, none⟩ : WriteApp)
    ((dbHandler (app (.exceptionInit .illegalDataValue))).writeSingleCoil {} 3 true).1 = .error 3 ∧
    ((dbHandler (app (.exceptionInit .illegalDataValue))).writeSingleRegister {} 3 7).1 = .error 3 ∧
    ((dbHandler (app (.rawExceptionInit 77))).writeSingleCoil {} 3 true).1 = .error 77 ∧
    ((dbHandler (app .successInit)).writeSingleCoil {} 3 true).1 = .ok () ∧
    ((dbHandler noWrites).writeSingleCoil {} 3 true).1 = .error 1 :=
  ⟨rfl, rfl, rfl, rfl, rfl⟩

example : handleResponse (.readCoils 0 8) (exceptionPdu 1 200) = .error (.exception 200) := by rfl
example : (excErrOf (ExCode.ofByte 200)).name = "ModbusExceptionUnknown" := rfl
example : (excErrOf (ExCode.ofByte 11)).name = "ModbusExceptionGatewayTargetDeviceFailedToRespond" := rfl

/-- a filter that excludes the peer excludes it through every constructor -/
example : ∀ c : ServerCtor,
    served c (.anyOf [.v4 127 0 0 9]) (.v4 127 0 0 1) = false ∧
    served c (.anyOf [.v4 127 0 0 9]) (.v4 127 0 0 9) = true := fun _ => ⟨rfl, rfl⟩

example : (fire .invalidRange .dropped).text = "BadRequest c0 f1 d1" := by decide +kernel
example : (fire .accepted .dropped).text = "Shutdown c0 f1 d1" := by decide +kernel

/-- a `BitList` / `RegisterList` handed to any number of write requests is left as it was, and
    EVERY request carries all of its values: the k-th request is `(k-th start, l.items)`
    whatever was submitted before -/
theorem list_reuse {α : Type} (l : ListObj α) (starts : List Nat) :
    l.submitAll starts = (starts.map fun s => (s, l.items), l) := by
  induction starts with
  | nil => rfl
  | cons s rest ih => simp [ListObj.submitAll, ListObj.submit, ih]

/-- a list that is used once and one that is used for the `k`-th time yield the same request -/
theorem list_reuse_nth {α : Type} (l : ListObj α) (starts : List Nat) (k : Nat) (hk : k < starts.length) :
    (l.submitAll starts).1[k]? = some (starts[k], l.submit.1) ∧ (l.submitAll starts).2 = l := by
  rw [list_reuse]
  simp [ListObj.submit, hk]

def Fires (f : Fired) (n : Nat) : Prop :=
  f.complete + f.failure = n ∧ f.destroy = n ∧ f.result.length = n

theorem Fires.merge {a b : Fired} {m n : Nat} (ha : Fires a m) (hb : Fires b n) :
    Fires (a.merge b) (m + n) := by
  obtain ⟨a1, a2, a3⟩ := ha
  obtain ⟨b1, b2, b3⟩ := hb
  exact ⟨by rw [← a1, ← b1]; exact Nat.add_add_add_comm .., by rw [← a2, ← b2]; rfl,
    by rw [← a3, ← b3]; exact List.length_append⟩

theorem fires_foldl (calls : List (Submit × TaskEnd)) {acc : Fired} {m : Nat} (h : Fires acc m) :
    Fires (calls.foldl (fun acc c => acc.merge (fire c.1 c.2)) acc) (m + calls.length) := by
  induction calls generalizing acc m with
  | nil => exact h
  | cons c rest ih =>
    rw [List.length_cons, Nat.add_comm rest.length 1, ← Nat.add_assoc]
    exact ih (h.merge (callback_exactly_once c.1 c.2))

/-- one callback context handed (inside equal callback structs) to `n` calls sees exactly `n`
    completions — one `on_complete` or `on_failure` per call, whatever each call's fate — and
    exactly `n` `on_destroy` -/
theorem callbacks_reused (calls : List (Submit × TaskEnd)) :
    (fireAll calls).complete + (fireAll calls).failure = calls.length ∧
    (fireAll calls).destroy = calls.length ∧
    (fireAll calls).result.length = calls.length := by
  have h := fires_foldl calls (acc := {}) (m := 0) ⟨rfl, rfl, rfl⟩
  rwa [Nat.zero_add] at h

/-- a server constructor leaves the caller's filter object alone and the server admits exactly
    the peers the object admitted when the constructor ran; an address added to the object later
    reaches only servers created afterwards -/
theorem filter_snapshot (c : ServerCtor) (f : Filter.AddressFilter) (addr : List Char) (peer : Filter.Addr) :
    (snapshotFilter c f).2 = f ∧
    (snapshotFilter c f).1.matches peer = f.matches peer ∧
    (snapshotFilter c (addressFilterAdd (snapshotFilter c f).2 addr).2).1 = (addressFilterAdd f addr).2 :=
  ⟨rfl, rfl, rfl⟩

/-- a unit id that is taken is refused, the map (and with it the database the FIRST registration
    configured) is unchanged and the refused registration's configuration callback does not run;
    a free unit id is registered with the database its callback built, every other unit keeps
    its database -/
theorem add_endpoint (m : DeviceMap) (u : Nat) (configure : Db → Db) :
    ((m.lookup u).isSome → m.addEndpoint u configure = (false, 0, m)) ∧
    (m.lookup u = none →
      (m.addEndpoint u configure).1 = true ∧ (m.addEndpoint u configure).2.1 = 1 ∧
      (m.addEndpoint u configure).2.2.lookup u = some (configure {}) ∧
      ∀ u', u' ≠ u → (m.addEndpoint u configure).2.2.lookup u' = m.lookup u') := by
  rw [DeviceMap.addEndpoint, DeviceMap.any_iff_lookup]
  refine ⟨fun h => if_pos h, fun h => ?_⟩
  rw [h, Option.isSome_none, if_neg Bool.false_ne_true]
  refine ⟨rfl, rfl, ?_, fun u' hu => ?_⟩
  · rw [DeviceMap.lookup_append, h, if_pos rfl]; rfl
  · rw [DeviceMap.lookup_append, if_neg (Ne.symm hu), Option.or_none]

/-- a server constructor takes every endpoint of the map — the server has exactly the units the
    map had — and leaves the caller an empty map, from which a second server gets no unit at all -/
theorem device_map_moved (m : DeviceMap) (u : Nat) :
    m.createServer.1 = m ∧ m.createServer.2.lookup u = none ∧
    m.createServer.2.createServer.1.lookup u = none :=
  ⟨rfl, rfl, rfl⟩

/-- the control functions report a null object as `NullParameter`, a channel whose task has
    ended as `Shutdown` (the same-named counterpart of the closed queue), a blocking call from
    an asynchronous context as `RuntimeCannotBlockWithinAsync` and everything else as `Ok` — the
    rows of the reference table — and the setting handed to the call (a decode level) is no
    argument of the result -/
theorem control_return_codes :
    CtlTarget.live.returnCode = Spec.controlReturn "client_channel_set_decode_level" "live" ∧
    CtlTarget.null.returnCode = Spec.controlReturn "client_channel_set_decode_level" "null" ∧
    CtlTarget.closed.returnCode = Spec.controlReturn "client_channel_set_decode_level" "closed" ∧
    CtlTarget.live.returnCode = Spec.controlReturn "server_set_decode_level" "live" ∧
    CtlTarget.null.returnCode = Spec.controlReturn "server_set_decode_level" "null" ∧
    CtlTarget.withinAsync.returnCode = Spec.controlReturn "server_set_decode_level" "withinAsync" ∧
    (∀ fn ∈ ["client_channel_enable", "client_channel_disable"],
      CtlTarget.live.returnCode = Spec.controlReturn fn "live" ∧
      CtlTarget.null.returnCode = Spec.controlReturn fn "null") ∧
    (∀ t : CtlTarget, t.returnCode ∈ paramErrorNames) := by
  rw [forall_iff_mem CtlTarget.mem_all]
  decide +kernel

/-- the transaction callback runs iff the call reports `Ok`, at most once; the callback struct
    is destroyed exactly once whether or not it ran; the return codes are the rows of the
    reference table -/
theorem update_database_callback (server : CtlTarget) (unitExists : Bool) :
    (updateDatabase server unitExists).2.2 = 1 ∧
    (updateDatabase server unitExists).2.1 ≤ 1 ∧
    ((updateDatabase server unitExists).2.1 = 1 ↔ (updateDatabase server unitExists).1 = "Ok") ∧
    (updateDatabase .null unitExists).1 = Spec.controlReturn "server_update_database" "null" ∧
    (updateDatabase .live true).1 = Spec.controlReturn "server_update_database" "live" ∧
    (updateDatabase .live false).1 = Spec.controlReturn "server_update_database" "nounit" := by
  revert server unitExists
  rw [forall_iff_mem CtlTarget.mem_all]
  decide +kernel

/-- in both reference tables of TLS configuration scenarios the `ParamError` is the same-named
    counterpart (through the expected conversion table) of what the Rust-API constructor reports -/
theorem tls_scenarios_same_named :
    (Spec.tlsClientScenarios ++ Spec.tlsServerScenarios).all (fun r =>
      if r.2.1 = "ok" then r.2.2 = "Ok"
      else if r.2.1 = "Utf8Error" then expectedParamErrors.contains ("Utf8Error", "_", r.2.2)
      else expectedParamErrors.contains ("TlsError", r.2.1, r.2.2)) = true := by
  decide +kernel

/-- the iterator handed to a completion yields the items in order and, once exhausted, null on
    every further call -/
theorem iterator_exhausted {α : Type} (items : List α) :
    (∀ k (h : k < items.length), iterNext items k = some items[k]) ∧
    (∀ k, items.length ≤ k → iterNext items k = none) ∧
    (∀ take, iterTake items take =
      (items.take take).map some ++ List.replicate (take - items.length) none) :=
  ⟨fun _ h => List.getElem?_eq_getElem h, fun _ h => List.getElem?_eq_none h,
   range_map_getElem? items⟩

example : ((ListObj.mk [0xCAFE, 0xBEEF]).submitAll [2, 6, 10]).1 =
    [(2, [0xCAFE, 0xBEEF]), (6, [0xCAFE, 0xBEEF]), (10, [0xCAFE, 0xBEEF])] := rfl
example : (fireAll [(.accepted, .success "complete"), (.invalidRequest, .dropped), (.nullArgument, .dropped)]).text =
    "complete+BadRequest+BadArgument c1 f2 d3" := by decide +kernel

end Rodbus.C18
