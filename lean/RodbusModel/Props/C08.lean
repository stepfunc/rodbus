import RodbusModel.Props.C01
import RodbusModel.Gen.Tables
/-
  C08  Authorization: a denied request has no effect and is answered with exception 01; an allowed
  request behaves exactly as without authorization; the decision is taken per request, before
  anything else happens to it; the built-in policies are what their names say.

  `cfg.auth = some (P, role)` models `AuthorizationType::Handler(handler, role)`; `P fc unit arg role`
  is the answer of the callback for function `fc`.  `cfg.allows dest req` is `is_authorized`,
  `cfg.question dest req` the (at most one) question put to the handler
  (Lemmas/ServerCases.lean).  The `Gen.*` tables are regenerated from the Rust source on every run.
-/
namespace Rodbus.C08
open Rodbus Rodbus.Spec.Server

/-- `cfg.allows … = false` means: a handler is configured and it answered `Deny` -/
theorem denied_iff {σ : Type} (cfg : ServerCfg σ) (dest : Nat) (req : Request) :
    cfg.allows dest req = false ↔
      ∃ P role, cfg.auth = some (P, role) ∧ P req.fc dest req.authArg role = false := by
  unfold ServerCfg.allows
  rcases cfg.auth with _ | ⟨P, role⟩ <;> simp [and_assoc]

/-- A denied request: the only call is the authorization question, no handler state changes, and
    the answer is exception 01 (`[fc | 0x80, 1]`) — nothing at all on an RTU broadcast.  This holds
    whether or not the addressed unit is configured. -/
theorem deny_no_effect {σ : Type} (cfg : ServerCfg σ) (hs : List (Nat × σ)) (f : Frame)
    (req : Request) (hreq : requestOf f = some req) (hd : cfg.allows f.dest req = false) :
    handleFrame cfg hs f =
      ⟨if isBroadcast cfg f then none else some [req.fc.toByte + 128, 1],
        cfg.question f.dest req, hs⟩ := by
  rw [handleFrame_request cfg hs f hreq, orErr_toByte]; simp [hd]

/-- in particular no `RequestHandler` callback runs -/
theorem deny_no_handler_call {σ : Type} (cfg : ServerCfg σ) (hs : List (Nat × σ)) (f : Frame)
    (req : Request) (hreq : requestOf f = some req) (hd : cfg.allows f.dest req = false) :
    ∀ c ∈ (handleFrame cfg hs f).calls, c.isAuth = true := by
  rw [deny_no_effect cfg hs f req hreq hd]; exact question_isAuth cfg f.dest req

/-- the exception sent on deny is `IllegalFunction`, wire value 1 (generated from task.rs) -/
theorem deny_exception_is_01 : Gen.denyException.toByte = 1 := by decide

/-- If the handler allows the request a frame denotes, the frame is handled exactly as by a server
    without authorization — same reply, same handler calls, same new states — except that the
    authorization question is asked first. -/
theorem allow_transparent {σ : Type} (cfg : ServerCfg σ) (hs : List (Nat × σ)) (f : Frame)
    (P : AuthFn) (role : String) (hauth : cfg.auth = some (P, role))
    (hallow : ∀ req, requestOf f = some req → P req.fc f.dest req.authArg role = true) :
    handleFrame cfg hs f =
      ⟨(handleFrame { cfg with auth := none } hs f).reply,
        (match requestOf f with
          | some req => [authQuestion req f.dest role]
          | none => []) ++ (handleFrame { cfg with auth := none } hs f).calls,
        (handleFrame { cfg with auth := none } hs f).states⟩ := by
  cases hreq : requestOf f with
  | none => rw [handleFrame_no_request cfg hs f hreq, handleFrame_no_request _ hs f hreq]; rfl
  | some req =>
    have ha : cfg.allows f.dest req = true := by
      simp [ServerCfg.allows, hauth, hallow req hreq]
    rw [handleFrame_request cfg hs f hreq, handleFrame_request _ hs f hreq]
    have hq : cfg.question f.dest req = [authQuestion req f.dest role] := by
      simp [ServerCfg.question, hauth]
    have ha0 : ServerCfg.allows { cfg with auth := none } f.dest req = true := rfl
    have hq0 : ServerCfg.question { cfg with auth := none } f.dest req = [] := rfl
    have hb0 : isBroadcast { cfg with auth := none } f = isBroadcast cfg f := rfl
    simp only [ha, hq, ha0, hq0, hb0, Bool.true_eq_false, if_false, List.nil_append]
    split
    · split <;> rfl
    · split <;> rfl

/-- With a handler configured, a valid request causes exactly one authorization question, before
    any handler call; an invalid / unknown / empty frame causes none (and no other call). -/
theorem auth_first_and_args {σ : Type} (cfg : ServerCfg σ) (hs : List (Nat × σ)) (f : Frame)
    (P : AuthFn) (role : String) (hauth : cfg.auth = some (P, role)) :
    (∀ req, requestOf f = some req →
      ∃ rest, (handleFrame cfg hs f).calls = authQuestion req f.dest role :: rest
        ∧ ∀ c ∈ rest, c.isAuth = false)
    ∧ (requestOf f = none → (handleFrame cfg hs f).calls = []) := by
  refine ⟨fun req hreq => ?_, fun h => by rw [handleFrame_no_request cfg hs f h]⟩
  obtain ⟨rest, h, hr⟩ := handleFrame_calls cfg hs f
  exact ⟨rest, by rw [h, hreq]; simp [ServerCfg.question, hauth], hr⟩

/-- The question carries the destination unit id, the role, and the request's range — or, for the
    two single writes, its index; the callback is the one named after the request. -/
theorem auth_question_args (u : Nat) (role : String) (r : Range) (i : Nat) (b : Bool) (v : Nat)
    (bs : List Bool) (vs : List Nat) :
    authQuestion (.readCoils r) u role = .authRange .readCoils u r role
    ∧ authQuestion (.readDiscreteInputs r) u role = .authRange .readDiscreteInputs u r role
    ∧ authQuestion (.readHoldingRegisters r) u role = .authRange .readHoldingRegisters u r role
    ∧ authQuestion (.readInputRegisters r) u role = .authRange .readInputRegisters u r role
    ∧ authQuestion (.writeSingleCoil i b) u role = .authIndex .writeSingleCoil u i role
    ∧ authQuestion (.writeSingleRegister i v) u role = .authIndex .writeSingleRegister u i role
    ∧ authQuestion (.writeMultipleCoils r bs) u role = .authRange .writeMultipleCoils u r role
    ∧ authQuestion (.writeMultipleRegisters r vs) u role = .authRange .writeMultipleRegisters u r role :=
  ⟨rfl, rfl, rfl, rfl, rfl, rfl, rfl, rfl⟩

/-- the model asks (`authCall` of `Request.authArg`) what the reference prescribes -/
theorem model_question_eq_spec (req : Request) (u : Nat) (role : String) :
    authCall req.fc u req.authArg role = authQuestion req u role :=
  authCall_eq_authQuestion req u role

theorem no_auth_no_question {σ : Type} (cfg : ServerCfg σ) (hs : List (Nat × σ)) (f : Frame)
    (h : cfg.auth = none) : (handleFrame cfg hs f).calls.filter Call.isAuth = [] := by
  rw [handleFrame_auth_calls]; cases requestOf f <;> simp [ServerCfg.question, h]

/-- The questions asked for a frame, and hence the decision, are a function of the configuration
    and that frame alone: they are the same whatever the handler states, i.e. whatever was handled
    before. -/
theorem per_request {σ : Type} (cfg : ServerCfg σ) (hs hs' : List (Nat × σ)) (f : Frame) :
    (handleFrame cfg hs f).calls.filter Call.isAuth
      = (handleFrame cfg hs' f).calls.filter Call.isAuth := by
  rw [handleFrame_auth_calls, handleFrame_auth_calls]

/-- Over a whole session: the authorization questions are, in order, one per frame that is a valid
    request — each computed from its own frame; no authorization state is threaded through
    `runFrames`. -/
theorem per_request_session {σ : Type} (cfg : ServerCfg σ) (hs : List (Nat × σ)) (fs : List Frame) :
    (runFrames cfg hs fs).2.1.filter Call.isAuth =
      fs.flatMap fun f => match requestOf f with
        | some req => cfg.question f.dest req
        | none => [] := by
  induction fs generalizing hs with
  | nil => rfl
  | cons f fs ih =>
    simp only [runFrames, List.filter_append, handleFrame_auth_calls, ih, List.flatMap_cons]
    rfl

/-- a frame denied in the middle of a session leaves the session where it was: the frames after it
    are handled as if it had never arrived (apart from its exception reply) -/
theorem denied_frame_skipped {σ : Type} (cfg : ServerCfg σ) (hs : List (Nat × σ)) (f : Frame)
    (fs : List Frame) (req : Request) (hreq : requestOf f = some req)
    (hd : cfg.allows f.dest req = false) :
    (runFrames cfg hs (f :: fs)).2.2 = (runFrames cfg hs fs).2.2
    ∧ (runFrames cfg hs (f :: fs)).2.1 = cfg.question f.dest req ++ (runFrames cfg hs fs).2.1 := by
  constructor <;> simp [runFrames, deny_no_effect cfg hs f req hreq hd]

/-- `check_authorization` (generated from task.rs): each request kind is put to the callback of the
    same name, and the argument is the index exactly for the two single writes — which is what the
    model (`Request.authArg`, `authQuestion`) does -/
theorem auth_table_correct (req : Request) (u : Nat) (role : String) :
    ∃ cb idx, Gen.authTable.lookup req.fc = some (cb, idx) ∧ cb = req.fc
      ∧ (idx = true ↔ req.fc = .writeSingleCoil ∨ req.fc = .writeSingleRegister)
      ∧ authQuestion req u role =
          (match req.authArg with
            | .range r => .authRange cb u r role
            | .index i => .authIndex cb u i role)
      ∧ (idx = true ↔ ∃ i, req.authArg = .index i) := by
  cases req <;> refine ⟨_, _, rfl, rfl, ?_, rfl, ?_⟩ <;> simp [Request.fc, Request.authArg]

theorem auth_table_complete : Gen.authTable.map (·.1) = Fc.all := by decide

/-- `ReadOnlyAuthorizationHandler` (generated): allow ⇔ the function is a read -/
theorem read_only_policy (fc : Fc) : Gen.readOnlyPolicy.lookup fc = some fc.isRead := by
  cases fc <;> rfl

/-- the default methods of `AuthorizationHandler` (generated): deny everything -/
theorem default_deny (fc : Fc) : Gen.defaultPolicy.lookup fc = some false := by
  cases fc <;> rfl

open Demo

/-- a write under the read-only policy: exception 01, one question, no handler call, no change -/
example : (handleFrame tlsReadOnly units ⟨some 9, 1, writeCoil⟩).reply = some [0x85, 1]
    ∧ (handleFrame tlsReadOnly units ⟨some 9, 1, writeCoil⟩).calls
        = [.authIndex .writeSingleCoil 1 1 "viewer"]
    ∧ (handleFrame tlsReadOnly units ⟨some 9, 1, writeCoil⟩).states = units := by
  decide +kernel

/-- the hypotheses of `deny_no_effect` hold for it -/
example : requestOf ⟨some 9, 1, writeCoil⟩ = some (.writeSingleCoil 1 true)
    ∧ tlsReadOnly.allows 1 (.writeSingleCoil 1 true) = false := by decide +kernel

/-- a read under the same policy: question first, then the reads, normal reply -/
example : (handleFrame tlsReadOnly units ⟨some 9, 2, [1, 0, 0, 0, 2]⟩).reply = some [1, 1, 0]
    ∧ (handleFrame tlsReadOnly units ⟨some 9, 2, [1, 0, 0, 0, 2]⟩).calls
        = [.authRange .readCoils 2 ⟨0, 2⟩ "viewer", .readCoil 2 0, .readCoil 2 1] := by
  decide +kernel

/-- a denied write to an unconfigured unit is still answered with exception 01 -/
example : (handleFrame tlsReadOnly units ⟨some 9, 77, writeCoil⟩).reply = some [0x85, 1] := by
  decide +kernel

/-- an invalid request is answered 03 without consulting the authorization handler -/
example : (handleFrame tlsReadOnly units ⟨some 9, 1, readZero⟩).reply = some [0x81, 3]
    ∧ (handleFrame tlsReadOnly units ⟨some 9, 1, readZero⟩).calls = [] := by
  decide +kernel

/-- the demo policy is the generated read-only table -/
example : ∀ fc ∈ Fc.all, Gen.readOnlyPolicy.lookup fc = some (readOnly fc 0 (.index 0) "") := by
  decide +kernel

end Rodbus.C08
