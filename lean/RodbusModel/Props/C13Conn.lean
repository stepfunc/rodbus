import RodbusModel.Props.C13
import RodbusModel.Lemmas.LifecycleConn
/-
  C13 on the log beyond the state path.  The connection object (`S.conn`: the task holds a
  `PhysLayer`; `Ev.closed`: the peer of the connection announced last has seen the client close it
  — the `life` harness logs `closed` when its scripted peer reads EOF / a reset, in front of the
  state announced next): the clause "Disabled after a disable, WHICH ALSO CLOSES AN OPEN
  CONNECTION", and the same for shutdown, for dropping every handle and for a lost connection.
  And `nothing_after_shutdown`, the log-level form of "afterwards every handle reports shutdown".

  The driver (`lifeVerdict` in Driver/Life.lean) runs four checks on every log it prints; for the
  runs of the model each is a theorem: `legal_path`, `closed_before_next_state`,
  `C14Life.logged_delays_conform`, `nothing_after_shutdown`.
-/
namespace Rodbus.C13
open Rodbus.Life Rodbus.Spec.Life Rodbus.Spec.LifeObs

/-- the task holds a connection exactly while it is blocked in the `Connected` callback or idle
    inside a session -/
theorem connection_open_iff (s : S) (pos : Pos) (hr : Reachable s pos) :
    s.conn = true ↔
      ((∃ next, pos = .gate .connected next) ∨ (∃ ph, pos = .idle ph ∧ isSession ph = true)) := by
  have h := hr.connQ.flags
  cases pos with
  | done => simp [show s.conn = false from ConnFits.closed h rfl]
  | idle ph => simpa [core] using h.conn
  | gate st next => simpa [core] using h.conn

/-- whatever ended the session — a disable, a shutdown, the loss of every handle, the peer's EOF
    or garbage, the timeout limit — the connection was dropped BEFORE the next state is announced -/
theorem next_state_announced_closed (s : S) (st : St) (next : Phase)
    (hr : Reachable s (.gate st next)) (hst : st ≠ .connected) : s.conn = false :=
  Bool.eq_false_iff.2 (mt hr.connQ.flags.conn.1 hst)

/-- … and at `Connected` it does hold one, which the peer has not seen closed -/
theorem connected_announced_open (s : S) (next : Phase) (hr : Reachable s (.gate .connected next)) :
    s.conn = true ∧ s.unreported = false :=
  ⟨hr.connQ.flags.conn.2 rfl, hr.connQ.flags.fresh rfl⟩

/-- … and the peer sees it so: after `g:Connected` nothing is announced until `closed` has been
    logged, `closed` is directly followed by the next announcement and occurs nowhere else -/
theorem closed_before_next_state (s0 : S) (h0 : Initial s0) (script : List (List Action)) :
    connOk (run s0 script).1.log = true := by
  have h : connRun 0 (run s0 script).1.log = _ := (reachable_run h0 script).connQ.log
  unfold connOk
  rw [h]
  cases connFlag (core (run s0 script).1) (run s0 script).2 <;> rfl

/-- the three user actions that end a session, with any peer that is not already gone: the
    connection is dropped in the same stop, and at the callback that follows the log continues
    `closed`, then the state.  `_hc` only records the situation meant: wherever a run idles in a
    session it holds (`idle_session_reachable_facts`); the proof does not use it, the task drops
    whatever it holds. -/
theorem session_end_closes_connection (a : Action) (ha : endsSession a = true) (b : Behaviour)
    (hb : b.fails = false) (s : S) (hg : b.gone s.served = false) (hq : s.queue = [])
    (hh : s.handles = true) (_hc : s.conn = true) (acts : List Action) :
    (stop s (.idle (.session b)) [a]).2 = gateAfter a ∧
    (stop s (.idle (.session b)) [a]).1.conn = false ∧
    (stop s (.idle (.session b)) [a]).1.unreported = true ∧
    (stop s (.idle (.session b)) [a]).1.log = s.log ++ [.idle, .act a] ∧
    (a = .disable → (stop s (.idle (.session b)) [a]).1.enabled = false) ∧
    ∃ evs, (stop (stop s (.idle (.session b)) [a]).1 (gateAfter a) acts).1.log =
        s.log ++ [.idle, .act a, .closed,
          .gate (if a = .disable then .disabled else .shutdown)] ++ evs ∧
      ∀ e ∈ evs, neutral e = true := by
  rw [stop_session_end a ha b hb s hg hq hh]
  refine ⟨rfl, rfl, rfl, rfl, fun h => by simp [h], ?_⟩
  obtain ⟨evs, hl, hne⟩ := stop_gate_log _ _ _ acts
  refine ⟨evs, hl.trans ?_, hne⟩
  -- at a callback the peer's observation is read off first: `closed`, then the state
  simp [report_eq]

/-- "Disabled after a disable, which also closes an open connection", for the connection object:
    the log continues `closed, g:Disabled`, the close is observed BEFORE `Disabled` is announced -/
theorem disable_closes_connection' (s : S) (hq : s.queue = []) (hh : s.handles = true)
    (hc : s.conn = true) (acts : List Action) :
    (stop s (.idle (.session .serve)) [.disable]).2 = .gate .disabled .waitEnabled ∧
    (stop s (.idle (.session .serve)) [.disable]).1.conn = false ∧
    (stop s (.idle (.session .serve)) [.disable]).1.enabled = false ∧
    (stop s (.idle (.session .serve)) [.disable]).1.log = s.log ++ [.idle, .act .disable] ∧
    ∃ evs, (stop (stop s (.idle (.session .serve)) [.disable]).1 (.gate .disabled .waitEnabled)
        acts).1.log = s.log ++ [.idle, .act .disable, .closed, .gate .disabled] ++ evs ∧
      ∀ e ∈ evs, neutral e = true := by
  obtain ⟨hpos, hconn, _, hlog, hen, hnext⟩ :=
    session_end_closes_connection .disable rfl .serve rfl s rfl hq hh hc acts
  exact ⟨hpos, hconn, hen rfl, hlog, hnext⟩

/-- the same for `Channel::shutdown` -/
theorem shutdown_closes_connection' (s : S) (hq : s.queue = []) (hh : s.handles = true)
    (hc : s.conn = true) (acts : List Action) :
    (stop s (.idle (.session .serve)) [.shutdown]).2 = .gate .shutdown .finished ∧
    (stop s (.idle (.session .serve)) [.shutdown]).1.conn = false ∧
    (stop s (.idle (.session .serve)) [.shutdown]).1.log = s.log ++ [.idle, .act .shutdown] ∧
    ∃ evs, (stop (stop s (.idle (.session .serve)) [.shutdown]).1 (.gate .shutdown .finished)
        acts).1.log = s.log ++ [.idle, .act .shutdown, .closed, .gate .shutdown] ++ evs ∧
      ∀ e ∈ evs, neutral e = true := by
  obtain ⟨hpos, hconn, _, hlog, _, hnext⟩ :=
    session_end_closes_connection .shutdown rfl .serve rfl s rfl hq hh hc acts
  exact ⟨hpos, hconn, hlog, hnext⟩

/-- … and when the last `Channel` is dropped -/
theorem drop_closes_connection' (s : S) (hq : s.queue = []) (hh : s.handles = true)
    (hc : s.conn = true) (acts : List Action) :
    (stop s (.idle (.session .serve)) [.dropAll]).2 = .gate .shutdown .finished ∧
    (stop s (.idle (.session .serve)) [.dropAll]).1.conn = false ∧
    (stop s (.idle (.session .serve)) [.dropAll]).1.log = s.log ++ [.idle, .act .dropAll] ∧
    ∃ evs, (stop (stop s (.idle (.session .serve)) [.dropAll]).1 (.gate .shutdown .finished)
        acts).1.log = s.log ++ [.idle, .act .dropAll, .closed, .gate .shutdown] ++ evs ∧
      ∀ e ∈ evs, neutral e = true := by
  obtain ⟨hpos, hconn, _, hlog, _, hnext⟩ :=
    session_end_closes_connection .dropAll rfl .serve rfl s rfl hq hh hc acts
  exact ⟨hpos, hconn, hlog, hnext⟩

/-- the hypotheses of the three theorems describe reachable positions: idle in a session of a
    run ⇒ the connection is held, unreported, the queue is empty -/
theorem idle_session_reachable_facts (s : S) (b : Behaviour) (hr : Reachable s (.idle (.session b))) :
    s.conn = true ∧ s.unreported = false ∧ s.queue = [] :=
  have h : ConnFits (.session b) (core s) := hr.connQ.flags
  ⟨h.conn.2 rfl, h.reported nofun, hr.ok.2⟩

/-- stops after the end of the task included: once `Shutdown` has been announced no state is
    announced any more, no idle period and no connection event is observed, every completion is
    `shutdown`; and the task has ended as soon as the callback announcing `Shutdown` has returned -/
theorem nothing_after_shutdown (s0 : S) (h0 : Initial s0) (script : List (List Action)) :
    afterShutdownOk (run s0 script).1.log = true ∧
    (St.shutdown ∈ states (run s0 script).1.log → (run s0 script).2 = .done) := by
  have h := (shutInv.reachable (fun s0 hi => ⟨by simp [core, hi.log], by simp⟩)
    (reachable_run h0 script)).2
  have hno : ∀ {l}, St.shutdown ∉ states l → afterShutdownOk l = true := fun hl => by
    simpa [afterShutdownOk] using afterShutdownOk_append _ [] hl
  cases hp : (run s0 script).2 <;> rw [hp] at h
  · exact ⟨hno h.1, fun hm => absurd hm h.1⟩
  · exact ⟨hno h.1, fun hm => absurd hm h.1⟩
  · exact ⟨h.ok, fun _ => rfl⟩

/-- the check accepts refusals and `shutdown` completions after `Shutdown`, nothing else -/
example : afterShutdownOk [.gate .disabled, .gate .shutdown, .act (.request 1),
    .done 1 "shutdown", .refused .enable, .act .dropAll] = true := by decide +kernel
example : afterShutdownOk [.gate .disabled, .gate .shutdown, .act (.request 1),
    .done 1 "noconn"] = false := by decide +kernel
example : afterShutdownOk [.gate .disabled, .gate .shutdown, .idle] = false := by decide +kernel

/-- non-vacuity: enable, connect, idle, disable — the harness log
    `g:Disabled;a:E;g:Connecting;g:Connected;idle;a:D;closed;g:Disabled;idle` -/
example :
    (run { retry := Retry.create 30 120, behaviours := [.serve] }
      [[.enable], [], [], [.disable], [], []]).1.log =
    [.gate .disabled, .act .enable, .gate .connecting, .gate .connected, .idle, .act .disable,
     .closed, .gate .disabled, .idle] := by decide +kernel

/-- the automaton rejects a state announced with the connection still open (no `closed`), a
    `closed` that is not directly followed by the next state, and a stray `closed` -/
example : connOk [.gate .disabled, .gate .connecting, .gate .connected, .idle, .act .disable,
    .gate .disabled] = false := by decide +kernel
example : connOk [.gate .disabled, .gate .connecting, .gate .connected, .closed, .idle,
    .gate .disabled] = false := by decide +kernel
example : connOk [.gate .disabled, .closed, .gate .connecting] = false := by decide +kernel
example : connOk [.gate .disabled, .gate .connecting, .gate .connected, .idle, .act .disable,
    .closed, .gate .disabled] = true := by decide +kernel

end Rodbus.C13
