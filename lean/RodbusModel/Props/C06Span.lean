import RodbusModel.Props.C06
/-
  C06: discharging the delimitation hypothesis `hspan` of `C06.corruption_rejected_partial`.

  An RTU receiver delimits a frame from two of its bytes only: the function code (frame byte 1;
  byte 0 is the address) and, for the length modes that read a byte count (`LengthMode.offset k`),
  the byte-count byte (PDU byte `k` = frame byte `k + 1`).  An error pattern that is zero on these
  bytes (`delimitingBytes`) cannot change the delimitation (`span_unchanged`), so every 1-bit,
  2-bit and ≤ 16-bit-burst error confined to the other bytes (address, data, CRC) is rejected with
  a CRC error without further hypothesis.  The exclusion is forced by the protocol: an accepted
  single-bit error is exhibited at the function code and at the byte count of a response and at
  the byte count of a request (none at the function code of a request).
-/
namespace Rodbus.C06
open Rodbus.Crc Rodbus.Rtu

/-- frame positions (address byte = position 0) of the bytes the length rule of direction `d`
    reads for a PDU: the function code, and the byte count where the length mode has one -/
def delimitingBytes (d : Dir) (pdu : Bytes) : List Nat :=
  match lengthMode d (pdu.headD 0) with
  | .offset k => [1, k + 1]
  | _ => [1]

/-- requests: the function code; for Write Multiple Coils / Registers also the byte count, which
    is PDU byte 5 = frame byte 6 -/
theorem delimiting_bytes_request (fc : Nat) (body : Bytes) :
    delimitingBytes .request (fc :: body) = if fc = 15 ∨ fc = 16 then [1, 6] else [1] := by
  simp only [delimitingBytes, List.headD_cons, lengthMode_request]
  by_cases h6 : fc = 1 ∨ fc = 2 ∨ fc = 3 ∨ fc = 4 ∨ fc = 5 ∨ fc = 6
  · have : ¬ (fc = 15 ∨ fc = 16) := by omega
    simp [h6, this]
  · by_cases h15 : fc = 15 ∨ fc = 16
    · simp [h6, h15]
    · simp [h6, h15]

/-- responses: the function code; for the four read responses also the byte count, which is PDU
    byte 1 = frame byte 2 -/
theorem delimiting_bytes_response (fc : Nat) (body : Bytes) :
    delimitingBytes .response (fc :: body)
      = if fc = 1 ∨ fc = 2 ∨ fc = 3 ∨ fc = 4 then [1, 2] else [1] := by
  simp only [delimitingBytes, List.headD_cons, lengthMode_response]
  by_cases h4 : fc = 1 ∨ fc = 2 ∨ fc = 3 ∨ fc = 4
  · have hx : fc &&& 0x80 = 0 := by rcases h4 with h | h | h | h <;> subst h <;> decide
    simp [h4, hx]
  · by_cases hx : fc &&& 0x80 = 0
    · by_cases h5 : fc = 5 ∨ fc = 6 ∨ fc = 15 ∨ fc = 16
      · simp [h4, h5, hx]
      · simp [h4, h5, hx]
    · simp [h4, hx]

theorem mem_delimitingBytes (d : Dir) (pdu : Bytes) (i : Nat) :
    i ∈ delimitingBytes d pdu ↔ i = 1 ∨ ∃ k, lengthMode d (pdu.headD 0) = .offset k ∧ i = k + 1 := by
  unfold delimitingBytes
  split
  · rename_i k hk
    simp only [hk, List.mem_cons, List.not_mem_nil, or_false, LengthMode.offset.injEq,
      exists_eq_left']
  · rename_i hk
    simp only [List.mem_singleton]
    exact ⟨.inl, fun h => h.elim id fun ⟨k, h, _⟩ => absurd h (hk k)⟩

/-- An error pattern that is zero on the function-code byte and (where there is one) on the
    byte-count byte leaves the delimitation of the frame unchanged.  No hypothesis on the PDU other
    than that it has a function code. -/
theorem span_unchanged (d : Dir) (dest : Nat) (pdu e : Bytes) (hne : pdu ≠ [])
    (hl : e.length = (format dest pdu).length)
    (hz : ∀ i ∈ delimitingBytes d pdu, e.getD i 0 = 0) :
    frameLen? d (xorBytes (format dest pdu) e) = frameLen? d (format dest pdu)
    ∧ frameSpan d (xorBytes (format dest pdu) e) = frameSpan d (format dest pdu) := by
  have key : frameLen? d (xorBytes (format dest pdu) e) = frameLen? d (format dest pdu) := by
    obtain ⟨fc, body, rfl⟩ := List.exists_cons_of_ne_nil hne
    refine frameLen?_congr d _ _ ?_ fun k hm => ?_
    · exact xorBytes_getElem?_of_zero _ _ hl.symm 1 (hz 1 ((mem_delimitingBytes ..).2 (.inl rfl)))
    · exact xorBytes_getElem?_of_zero _ _ hl.symm (k + 1)
        (hz (k + 1) ((mem_delimitingBytes ..).2 (.inr ⟨k, hm, rfl⟩)))
  exact ⟨key, by simp only [frameSpan, key]⟩

/-- `corruption_rejected_partial` without its delimitation hypothesis.  A valid frame hit by a
    single-bit, a double-bit or a ≤ 16-bit burst error that spares the function-code byte and the
    byte-count byte — i.e. an error anywhere in the unit id, the data bytes and the two CRC bytes —
    is answered with a CRC error and nothing else: no frame event (no handler call, no reply, no
    accepted response), and the session ends. -/
theorem corruption_rejected_data_bytes (d : Dir) (dest : Nat) (pdu e rest : Bytes)
    (hd : dest < 256) (hp : WellFormedPdu d pdu) (he : Bytes.WF e)
    (hl : e.length = (format dest pdu).length)
    (hpat : SingleBit e ∨ Burst16 e ∨ DoubleBit e)
    (hz : ∀ i ∈ delimitingBytes d pdu, e.getD i 0 = 0) :
    ∃ r x, r ≠ x ∧
      specFrames d (xorBytes (format dest pdu) e ++ rest) = [.err (.crcValidationFailure r x)] := by
  have hne : pdu ≠ [] := by
    intro h; have := hp.2.2; rw [h] at this; simp [pduLenRule] at this
  refine corruption_rejected_partial d dest pdu e rest hd hp he hl hpat ?_
  rw [(span_unchanged d dest pdu e hne hl hz).2]
  exact hp.span dest

/-- the same through the buffered reader, for every chunking of the corrupted stream -/
theorem corruption_rejected_data_bytes_run (d : Dir) (dest : Nat) (pdu e rest : Bytes)
    (chunks : List Bytes) (hd : dest < 256) (hp : WellFormedPdu d pdu) (he : Bytes.WF e)
    (hl : e.length = (format dest pdu).length)
    (hpat : SingleBit e ∨ Burst16 e ∨ DoubleBit e)
    (hz : ∀ i ∈ delimitingBytes d pdu, e.getD i 0 = 0)
    (hc : chunks.flatten = xorBytes (format dest pdu) e ++ rest) :
    (∃ r x, r ≠ x ∧ Rtu.run d chunks = [.err (.crcValidationFailure r x)])
      ∧ ∀ f, Event.frame f ∉ Rtu.run d chunks := by
  obtain ⟨r, x, hrx, h⟩ := corruption_rejected_data_bytes d dest pdu e rest hd hp he hl hpat hz
  rw [rtu_chunking_independent, hc, h]
  exact ⟨⟨r, x, hrx, rfl⟩, by simp⟩

/-- in particular every error confined to the address byte, and every error confined to the two
    CRC bytes, is rejected: these positions are never delimiting -/
theorem address_and_crc_never_delimiting (d : Dir) (pdu : Bytes) (hp : WellFormedPdu d pdu) :
    0 ∉ delimitingBytes d pdu ∧ pdu.length + 1 ∉ delimitingBytes d pdu
      ∧ pdu.length + 2 ∉ delimitingBytes d pdu := by
  obtain ⟨n, hn, -⟩ := hp.frameLen
  unfold delimitingBytes
  split
  · have := hp.offset_lt ‹_›
    simp only [List.mem_cons, List.not_mem_nil, or_false, not_or]; omega
  · simp only [List.mem_singleton]; omega

/-- the witness `byte_count_flip_accepted` flips a bit of frame byte 2, the byte count of a
    read response, and of no other byte -/
theorem byte_count_flip_position :
    delimitingBytes .response [0x03, 0x04, 0x50, 0xF8, 0x00, 0x00] = [1, 2]
    ∧ ∀ i, ([0, 0, 4, 0, 0, 0, 0, 0, 0] : Bytes).getD i 0 ≠ 0 ↔ i = 2 := by
  refine ⟨by decide +kernel, fun i => ?_⟩
  match i with
  | 0 | 1 | 2 | 3 | 4 | 5 | 6 | 7 | 8 => decide
  | n + 9 => simp

/-- server side (requests): the valid request `2A 10 0000 0001 02 93C2 crc` (write one register)
    with a single flipped bit in its byte count (`02 → 00`, frame byte 6) is delimited two bytes
    short; the register value `93 C2` happens to be the CRC of `2A 10 00 00 00 01 00`, so the
    server's reader accepts a frame that was never sent -/
theorem request_byte_count_flip_accepted :
    WellFormedPdu .request [0x10, 0, 0, 0, 1, 2, 0x93, 0xC2]
    ∧ SingleBit [0, 0, 0, 0, 0, 0, 2, 0, 0, 0, 0]
    ∧ delimitingBytes .request [0x10, 0, 0, 0, 1, 2, 0x93, 0xC2] = [1, 6]
    ∧ Rtu.run .request
        [xorBytes (format 0x2A [0x10, 0, 0, 0, 1, 2, 0x93, 0xC2]) [0, 0, 0, 0, 0, 0, 2, 0, 0, 0, 0]]
      = [.frame ⟨none, 0x2A, [0x10, 0, 0, 0, 1, 0]⟩, .err (.unknownFunctionCode 0xC0)] :=
  ⟨by decide +kernel, ⟨49, by decide +kernel⟩, by decide +kernel, by decide +kernel⟩

/-- the function-code byte (frame byte 1): the valid response `2A 06 0051 6800 crc` (echo of a
    single-register write) with a single flipped bit in its function code (`06 → 02`) is
    delimited by the byte count `00` of a read response; `51 68` happens to be the CRC of
    `2A 02 00`, and the receiver accepts the frame `02 00` that was never sent -/
theorem function_code_flip_accepted :
    WellFormedPdu .response [0x06, 0x00, 0x51, 0x68, 0x00]
    ∧ SingleBit [0, 4, 0, 0, 0, 0, 0, 0]
    ∧ delimitingBytes .response [0x06, 0x00, 0x51, 0x68, 0x00] = [1]
    ∧ Rtu.run .response
        [xorBytes (format 0x2A [0x06, 0x00, 0x51, 0x68, 0x00]) [0, 4, 0, 0, 0, 0, 0, 0]]
      = [.frame ⟨none, 0x2A, [0x02, 0x00]⟩] :=
  ⟨by decide +kernel, ⟨10, by decide +kernel⟩, by decide +kernel, by decide +kernel⟩

/-- a flipped bit in the unit id -/
example : ∃ r x, r ≠ x ∧
    specFrames .request
      (xorBytes (format 0x2A [0x10, 0, 0x10, 0, 2, 4, 0x12, 0x34, 0x56, 0x78])
        [0x40, 0, 0, 0, 0, 0, 0, 0, 0, 0, 0, 0, 0])
      = [.err (.crcValidationFailure r x)] := by
  have := corruption_rejected_data_bytes .request 0x2A
    [0x10, 0, 0x10, 0, 2, 4, 0x12, 0x34, 0x56, 0x78] [0x40, 0, 0, 0, 0, 0, 0, 0, 0, 0, 0, 0, 0] []
    (by decide) (by decide) (by decide) (by decide +kernel) (Or.inl ⟨6, by decide⟩) (by decide)
  rw [List.append_nil] at this
  exact this

/-- a 16-bit burst over the two CRC bytes -/
example : ∃ r x, r ≠ x ∧
    specFrames .request
      (xorBytes (format 0x2A [0x03, 0, 0x10, 0, 3]) [0, 0, 0, 0, 0, 0, 0xFF, 0xFF])
      = [.err (.crcValidationFailure r x)] := by
  have := corruption_rejected_data_bytes .request 0x2A [0x03, 0, 0x10, 0, 3]
    [0, 0, 0, 0, 0, 0, 0xFF, 0xFF] [] (by decide) (by decide) (by decide) (by decide +kernel)
    (Or.inr (Or.inl ⟨48, 0xFFFF, by decide, by decide, by decide⟩)) (by decide)
  rw [List.append_nil] at this
  exact this

/-- two flipped bits, one in a data byte and one in the address of a read response -/
example : DoubleBit [1, 0, 0, 0, 0, 0x80, 0, 0, 0]
    ∧ ∀ i ∈ delimitingBytes .response [0x03, 0x04, 0x50, 0xF8, 0x00, 0x00],
        ([1, 0, 0, 0, 0, 0x80, 0, 0, 0] : Bytes).getD i 0 = 0 :=
  ⟨⟨0, 47, by decide +kernel, by decide +kernel⟩, by decide +kernel⟩

end Rodbus.C06
