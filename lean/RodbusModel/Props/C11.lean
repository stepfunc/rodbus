import RodbusModel.Props.C12
import RodbusModel.Props.C03Run
/-
  C11  The client keeps at most one request outstanding, transmits requests in submission order and
  stamps each TCP request with a 16-bit transaction id that advances by one for every request taken
  from its queue (wrapping after 65535).  A reply whose transaction id differs from the outstanding
  request's is discarded, and frames arriving while no request is outstanding are dropped.
  A frame that was completely received before a request is transmitted never becomes its result
  (`FramedReader::discard_buffered_frames`, called between formatting and writing the request).

  Model and abstraction as in Props/C10.  All history lists have the newest entry first:
  `sent` (rid, tx id, frame) of every request written, `dequeued` (rid, tx id) of every request
  taken from the queue inside a session, `accepted` rids in submission order.
-/
namespace Rodbus.Client

/-- In every reachable state at most one request is in flight (the type of `pos` has room for one),
    and every request that was ever written to a transport other than that one has already
    completed. -/
theorem one_outstanding {σ : Type} (F : Framing σ) (cap maxTo : Nat) (d : Decode)
    (coins : List Bool) (steps : List Step) (s : State σ)
    (hs : s = runState F (State.init F cap maxTo d coins) steps) :
    (inflightIds s.pos).length ≤ 1
      ∧ ∀ x ∈ s.sent, x.1 ∈ doneIds s.log ∨ x.1 ∈ inflightIds s.pos := by
  refine ⟨?_, out_reach _ (reach_of_eq hs)⟩
  cases s.pos <;> simp [inflightIds]

/-- A request is written only when none is in flight: the write takes the loop from `idle` to
    `inflight` with the request that was at the head of the queue. -/
theorem write_only_when_idle {c c' : Core} (t : TEff c c') (h : c'.sent ≠ c.sent) :
    ∃ m r q, c.pos = .idle m ∧ c.queue = .req r :: q
      ∧ c'.pos = .inflight m r c.tx (c.now + r.timeout) := by
  cases t with
  | send m r q bytes logged ha hp hq => exact ⟨m, r, q, hp, hq, rfl⟩
  | dequeueFail m r q res ha hp hq hres | finish m r tx dl res ha hp ht h3 h4 =>
    exact absurd (by simp only [afterCore_parts]) h
  | _ => exact absurd rfl h

/-- What is written is a subsequence of what was taken from the queue (same request,
    same tx id, same order), and the requests still queued followed by the requests taken are a
    subsequence of the accepted requests in submission order: requests are transmitted in the
    order in which they were submitted. -/
theorem fifo_order {σ : Type} (F : Framing σ) (cap maxTo : Nat) (d : Decode)
    (coins : List Bool) (steps : List Step) (s : State σ)
    (hs : s = runState F (State.init F cap maxTo d coins) steps) :
    List.Sublist (s.sent.map fun x => (x.1, x.2.1)) s.dequeued
      ∧ List.Sublist ((queueIds s.queue).reverse ++ s.dequeued.map (·.1)) s.accepted :=
  fifo_reach _ (reach_of_eq hs)

/-- The `k`-th request taken from the queue in a session (counted from 0 over the
    whole life of the task, for unbounded `k`) carries the tx id `k mod 65536`; this also holds
    when the request then fails to be encoded or written, and the counter holds the next id. -/
theorem txid_formula {σ : Type} (F : Framing σ) (cap maxTo : Nat) (d : Decode)
    (coins : List Bool) (steps : List Step) (s : State σ)
    (hs : s = runState F (State.init F cap maxTo d coins) steps) :
    s.tx = s.dequeued.length % 65536
      ∧ ∀ k, k < s.dequeued.length → (s.dequeued.reverse.map (·.2))[k]? = some (k % 65536) := by
  obtain ⟨h1, h2⟩ : TxSeq (core s) := txSeq_reach _ (reach_of_eq hs)
  have h2 : s.dequeued.reverse.map (·.2) = (List.range s.dequeued.length).map (· % 65536) := h2
  refine ⟨h1, fun k hk => ?_⟩
  rw [h2]
  simp [hk]

/-- MBAP puts the tx id big-endian into the first two bytes of the frame.  (That the id of a written
    request is the one drawn for it when it was taken from the queue is `fifo_order`:
    `sent ⊆ dequeued`.) -/
theorem mbap_stamps_txid (tx unit : Nat) (pdu : Bytes) :
    (mbap.format tx unit pdu).take 2 = u16be tx := rfl

/-- the frame of a written request is `format (drawn tx id) unit (request PDU)` -/
theorem sent_frame {σ : Type} (F : Framing σ) (s : State σ) (m : Nat) (r : Req) :
    (startRequest F s m r).sent = s.sent
      ∨ ∃ pdu, encodeRequest r.req = .ok pdu
          ∧ (startRequest F s m r).sent = (r.rid, s.tx, F.format s.tx r.unit pdu) :: s.sent := by
  rcases startRequest_emission F s m r with ⟨_, _, h, _⟩ | ⟨pdu, he, ⟨h, _⟩ | ⟨h, _⟩⟩
  · exact .inl h
  · exact .inl h
  · exact .inr ⟨pdu, he, h⟩

/-- `TxId::next` advances by one and wraps from 65535 to 0, staying 16-bit. -/
theorem txid_next_wraps :
    nextTx 65535 = 0 ∧ ∀ t, t < 65535 → nextTx t = t + 1 ∧ nextTx t < 65536 := by
  refine ⟨rfl, ?_⟩
  intro t ht
  unfold nextTx
  have : ¬ t = 65535 := by omega
  simp [this]; omega

/-- two requests taken from the queue one after the other never carry the same tx id -/
theorem consecutive_differ (t : Nat) : nextTx t ≠ t := by
  unfold nextTx; split <;> omega

/-- While a request with tx id `tx` is outstanding and its deadline has not
    been reached, a frame whose tx id differs is consumed without any effect on the request: nothing
    is logged, the request stays in flight with the same deadline, the queue is untouched. -/
theorem mismatch_discarded {σ : Type} (F : Framing σ) (s s' : State σ) (m : Nat) (q : Req)
    (tx dl t : Nat) (f : Frame) (hr : pollReader F s m = (.frame f, s')) (hnow : s.now < dl)
    (ht : f.tx = some t) (hne : t ≠ tx) :
    tickInflight F s m q tx dl = some s' ∧ core s' = core s := by
  have hm : txMatches f tx = false := (txMatches_false_iff f tx).mpr ⟨t, ht, hne⟩
  have hc := core_pollReader F s m
  rw [hr] at hc
  exact ⟨(before_deadline F s s' m q tx dl _ hr hnow).2.2.1 f rfl hm, hc⟩

/-- the same at the deadline instant, whichever branch `select!` polls first: a mismatching frame
    never becomes the result; the request either times out or stays as it is -/
theorem mismatch_discarded_at_deadline {σ : Type} (F : Framing σ) (s s' t' : State σ) (m : Nat)
    (q : Req) (tx dl t : Nat) (f : Frame) (hr : pollReader F s m = (.frame f, s'))
    (hnow : dl ≤ s.now) (ht : f.tx = some t) (hne : t ≠ tx)
    (h : tickInflight F s m q tx dl = some t') :
    t' = finish (flip s).2 m q .timeout ∨ core t' = core s := by
  have hm : txMatches f tx = false := (txMatches_false_iff f tx).mpr ⟨t, ht, hne⟩
  have hc := core_pollReader F s m
  rw [hr] at hc
  rw [at_deadline_race F s s' m q tx dl _ hr nofun hnow, inflightReader_mismatch _ m q tx f hm] at h
  -- the coin decides; the reader's branch only renews the coins, which `core` does not see
  split at h
  · left; cases h; rfl
  · right; cases h; exact hc

/-- When a request has been written (for whatever resolution of the
    scheduler's polling order: `startRequest` does not consult it), the read buffer holds no
    complete frame any more: every frame that had been received completely before the request was
    transmitted — while no request was outstanding, or behind the reply of the previous request
    whatever tx id it carries — has been dropped by `discard_buffered_frames`.  Without new bytes
    from the transport the reader reports nothing, so the response loop cannot complete the request
    from what was received earlier.  (`DiscardComplete F`: the discard loop runs to the parser's
    `Ok(None)`; `mbap_discardComplete`, `rtu_discardComplete`.) -/
theorem stale_frame_never_accepted {σ : Type} (F : Framing σ) (hF : DiscardComplete F)
    (s : State σ) (m : Nat) (r : Req) (m' : Nat) (r' : Req) (tx dl : Nat)
    (h : (startRequest F s m r).pos = .inflight m' r' tx dl) :
    let t := startRequest F s m r
    (∀ fuel, readerPoll F fuel t.pst t.rb [] = (.blocked, t.pst, t.rb, []))
      ∧ ((getMock t m').rx = [] → t.now < dl → tickInflight F t m' r' tx dl = none) := by
  intro t
  have hpar := startRequest_reader F hF s m r m' r' tx dl h
  refine ⟨fun fuel => readerPoll_blocked F fuel _ _ hpar, fun hrx hnow => ?_⟩
  refine (tickInflight_eq_none F t m' r' tx dl).mpr ⟨?_, hrx, hnow⟩
  rw [pollReader_fst, hrx, readerPoll_blocked F _ _ _ hpar]

theorem stale_frame_never_accepted_mbap (s : State Mbap.PState) (m : Nat) (r : Req) (m' : Nat)
    (r' : Req) (tx dl : Nat) (h : (startRequest mbap s m r).pos = .inflight m' r' tx dl) :
    let t := startRequest mbap s m r
    (∀ fuel, readerPoll mbap fuel t.pst t.rb [] = (.blocked, t.pst, t.rb, []))
      ∧ ((getMock t m').rx = [] → t.now < dl → tickInflight mbap t m' r' tx dl = none) :=
  stale_frame_never_accepted mbap mbap_discardComplete s m r m' r' tx dl h

/-- the same for RTU (response parser).  `hst` is not used: the discard loop is complete from every
    parser state (`rtu_discardComplete`), not only from those the reader can be in between calls
    (`Rtu.StOk`). -/
theorem stale_frame_never_accepted_rtu (s : State Rtu.PState) (hst : Rtu.StOk s.pst) (m : Nat)
    (r : Req) (m' : Nat) (r' : Req) (tx dl : Nat)
    (h : (startRequest rtu s m r).pos = .inflight m' r' tx dl) :
    let t := startRequest rtu s m r
    (∀ fuel, readerPoll rtu fuel t.pst t.rb [] = (.blocked, t.pst, t.rb, []))
      ∧ ((getMock t m').rx = [] → t.now < dl → tickInflight rtu t m' r' tx dl = none) :=
  stale_frame_never_accepted rtu rtu_discardComplete s m r m' r' tx dl h

/-- malformed bytes found in the buffer when a request is about to be written fail that request
    with the framing error (nothing is transmitted; by `error_meaning_transport` the session ends) -/
theorem stale_garbage_fails_request {σ : Type} (F : Framing σ) (s : State σ) (m : Nat) (r : Req)
    (pdu : Bytes) (res : Res) (st' : σ) (rb' : RB) (he : encodeRequest r.req = .ok pdu)
    (hd : discardBuffered F (discardFuel s.rb) s.pst s.rb = (some res, st', rb')) :
    (startRequest F s m r).sent = s.sent ∧ (∃ e, res = frameErrRes e)
      ∧ ∃ s1, startRequest F s m r = finish s1 m r res := by
  refine ⟨?_, discardBuffered_err F _ _ _ res _ hd, ?_⟩
  · unfold startRequest; simp only [he, hd]; exact finish_sent _ _ _ _
  · unfold startRequest; simp only [he, hd]; exact ⟨_, rfl⟩

/-- A frame handed to the loop while no request is outstanding is dropped: nothing
    is logged, nothing changes except that the bytes are consumed. -/
theorem idle_dropped {σ : Type} (F : Framing σ) (s s' : State σ) (m : Nat) (f : Frame)
    (hr : pollReader F s m = (.frame f, s')) (hq : recvReady s = false) :
    tickIdle F s m = some s' ∧ core s' = core s := by
  have hc := core_pollReader F s m
  rw [hr] at hc
  refine ⟨?_, hc⟩
  rw [tickIdle_eq, hr]
  simp only [hq]
  rfl

theorem idle_frame_no_effect {σ : Type} (s : State σ) (f : Frame) : idleReader s (.frame f) = s :=
  rfl

namespace Example

/-- two requests, replies in order, tx ids 0 and 1 on the wire -/
example :
    (runState mbap s16
      [.newSession, .submit .R 0 (rc "a" .future 1000), .submit .R 0 (rc "b" .future 1000),
       .rx (.data [0, 0, 0, 0, 0, 4, 1, 1, 1, 0x55]),
       .rx (.data [0, 1, 0, 0, 0, 4, 1, 1, 1, 0xFF])]).sent.map (fun x => (x.1, x.2.1))
      = [("b", 1), ("a", 0)] := by decide +kernel

/-- a reply with a stale tx id is skipped, the request then times out at its deadline -/
example :
    (runState mbap s16
      [.newSession, .submit .R 0 (rc "a" .future 10), .rx (.data [0, 9, 0, 0, 0, 4, 1, 1, 1, 0x55]),
       .advance 10]).log
      = [.done "a" .future .timeout 10, .tx [0, 0, 0, 0, 0, 6, 1, 1, 0, 0, 0, 8]] := by decide +kernel

/-- a frame that arrives while idle is dropped; the next request is not affected by it -/
example :
    (runState mbap s16
      [.newSession, .rx (.data [0, 0, 0, 0, 0, 4, 1, 1, 1, 0x55]),
       .submit .R 0 (rc "a" .future 10), .advance 10]).log
      = [.done "a" .future .timeout 10, .tx [0, 0, 0, 0, 0, 6, 1, 1, 0, 0, 0, 8]] := by decide +kernel

/-- The race `discard_buffered_frames` closes (finding F16).  Bytes delivered together with the
    matching reply of request `a` stay in the read buffer; with `b` already queued,
    `ClientLoop::poll` selects between the reader and the queue in random order.  In both orders
    the second frame (tx id 1, received while `a` with tx id 0 was outstanding) is dropped, as
    "received while idle" or by the discard before `b` is written, and `b` stays in flight; without
    the discard it would be the result of `b` when the queue is polled first. -/
example :
    let script := [Step.newSession, .submit .R 0 (rc "a" .future 1000),
      .submit .R 0 (rc "b" .future 1000),
      .rx (.data [0, 0, 0, 0, 0, 4, 1, 1, 1, 0x55, 0, 1, 0, 0, 0, 4, 1, 1, 1, 0xFF])]
    (doneIds (runState mbap (State.init mbap 16 0 ⟨0, 0, 0⟩ [true]) script).log = ["a"])
      ∧ (doneIds (runState mbap (State.init mbap 16 0 ⟨0, 0, 0⟩ [false]) script).log = ["a"])
      ∧ inflightIds (runState mbap (State.init mbap 16 0 ⟨0, 0, 0⟩ [false]) script).pos = ["b"] := by
  decide +kernel

/-- garbage buffered behind the reply of `a`: the next request fails with the framing error when
    the queue is polled first, the session ends with the framing error either way -/
example :
    let script := [Step.newSession, .submit .R 0 (rc "a" .future 1000),
      .submit .R 0 (rc "b" .future 1000),
      .rx (.data [0, 0, 0, 0, 0, 4, 1, 1, 1, 0x55, 0, 1, 0, 1, 0, 4, 1])]
    ((runState mbap (State.init mbap 16 0 ⟨0, 0, 0⟩ [true]) script).log.take 1
        = [.fin .badFrame 0])
      ∧ ((runState mbap (State.init mbap 16 0 ⟨0, 0, 0⟩ [false]) script).log.take 2
        = [.fin .badFrame 0, .done "b" .future (.bf .proto) 0]) := by
  decide +kernel

end Example

end Rodbus.Client
