import RodbusModel.Lemmas.Retry
/-
  C14 — Reconnect delays follow the retry strategy: doubling, capped, reset on success.
  Here the strategy object alone; the tasks that use it: Props/C14Life and Props/C13 (TCP / TLS
  client), Props/C14Serial, Props/C14Server.
-/
namespace Rodbus.C14
open Rodbus.Retry

/-- state invariant: the current delay never exceeds the cap -/
def Inv (d : Doubling) : Prop := d.current ≤ d.max

theorem create_inv (min max : Nat) : Inv (create min max) := by
  show Nat.min min max ≤ max
  exact Nat.min_le_right _ _

theorem reset_inv (d : Doubling) : Inv (reset d) := by
  show Nat.min d.min d.max ≤ d.max
  exact Nat.min_le_right _ _

theorem failed_inv (d : Doubling) : Inv (afterFailedConnect d).2 := by
  show Nat.min (Nat.min (2 * d.current) DURATION_MAX) d.max ≤ d.max
  exact Nat.min_le_right _ _

/-- after a reset (or creation), the k-th consecutive `after_failed_connect`
    returns `min · 2^(k-1)` capped at `max` — for every `(min, max)` with `max` representable
    and every `k`. -/
theorem kth_delay (min max : Nat) (hmax : max ≤ DURATION_MAX) (k : Nat) :
    ∀ d : Doubling, d.min = min → d.max = max → ∀ j, d.current = Nat.min (min * 2 ^ j) max →
      (failures d k) = (List.range k).map (fun i => Nat.min (min * 2 ^ (j + i)) max) := by
  intro d h1 h2 j h3
  rw [eq_closed h1 h2 h3]
  exact failures_closed hmax min k j

theorem kth_delay_created (min max : Nat) (hmax : max ≤ DURATION_MAX) (k : Nat) :
    failures (create min max) k = (List.range k).map (fun i => Nat.min (min * 2 ^ i) max) := by
  simpa [create_eq_closed] using failures_closed hmax min k 0

/-- … and after any reset: the sequence restarts at `min` (capped) -/
theorem kth_delay_after_reset (d : Doubling) (hmax : d.max ≤ DURATION_MAX) (k : Nat) :
    failures (reset d) k = (List.range k).map (fun i => Nat.min (d.min * 2 ^ i) d.max) := by
  simpa using kth_delay d.min d.max hmax k (reset d) rfl rfl 0 (by simp [reset])

/-- no wrap, however long the failure run: the `i`-th (0-based) of `k` consecutive failures
    after creation waits `min · 2^i` capped at `max` — for every `i < k`, with no bound on `k`
    (no counter that could wrap is involved) -/
theorem kth_delay_get (min max : Nat) (hmax : max ≤ DURATION_MAX) (k i : Nat) (hi : i < k) :
    (failures (create min max) k)[i]? = some (Nat.min (min * 2 ^ i) max) := by
  rw [kth_delay_created min max hmax k]
  simp [hi]

/-- … and once `min · 2^j` has reached the cap, every later delay IS the cap: the sequence never
    falls back (in particular not after 256 or 65536 attempts) -/
theorem delay_saturates (min max : Nat) (hmax : max ≤ DURATION_MAX) (j : Nat)
    (hj : max ≤ min * 2 ^ j) (k i : Nat) (hji : j ≤ i) (hi : i < k) :
    (failures (create min max) k)[i]? = some max := by
  have h : max ≤ min * 2 ^ i :=
    Nat.le_trans hj (Nat.mul_le_mul_left _ (Nat.pow_le_pow_right (by omega) hji))
  rw [kth_delay_get min max hmax k i hi]
  exact congrArg some (Nat.min_eq_right h)

/-- after a lost connection the delay is `min`, whatever happened before -/
theorem disconnect_is_min (d : Doubling) : afterDisconnect d = d.min := rfl

theorem disconnect_after_failures (min max k : Nat) :
    ∀ d : Doubling, d.min = min → afterDisconnect (List.foldl (fun d _ => (afterFailedConnect d).2) d (List.range k)) = min := by
  intro d h
  -- `after_failed_connect` does not touch `min`
  exact List.foldlRecOn (motive := fun d : Doubling => d.min = min) (List.range k) _ h fun _ h _ _ => h

/-- every delay returned in a sequence of operations is at most `max`, or it is `min`
    (`after_disconnect` returns `min` uncapped) -/
theorem delay_le_max (d : Doubling) (h : Inv d) (ops : List Op) :
    ∀ x ∈ run d ops, x ≤ d.max ∨ x = d.min := by
  induction ops generalizing d with
  | nil => intro x hx; simp [run] at hx
  | cons op ops ih =>
    intro x hx
    cases op with
    | failed =>
      simp only [run, List.mem_cons] at hx
      rcases hx with rfl | hx
      · left; exact h
      · have := ih (afterFailedConnect d).2 (failed_inv d) x hx
        simpa [afterFailedConnect] using this
    | disconnect =>
      simp only [run, List.mem_cons] at hx
      rcases hx with rfl | hx
      · right; rfl
      · exact ih d h x hx
    | reset =>
      simp only [run] at hx
      have := ih (reset d) (reset_inv d) x hx
      simpa [reset] using this

/-- the doubling never overflows a `Duration`: the stored value stays representable -/
theorem no_overflow (d : Doubling) (h : d.current ≤ DURATION_MAX) :
    (afterFailedConnect d).2.current ≤ DURATION_MAX := by
  simp only [afterFailedConnect]
  exact Nat.le_trans (Nat.min_le_left _ _) (Nat.min_le_right _ _)

/-- non-vacuity: 1 s / 60 s, seven failures: 1, 2, 4, 8, 16, 32, 60 s -/
example : failures (create 1000000000 60000000000) 7 =
    [1000000000, 2000000000, 4000000000, 8000000000, 16000000000, 32000000000, 60000000000] := by
  decide +kernel
/-- min > max: every delay is the cap -/
example : failures (create 2000000000 1000000000) 3 = [1000000000, 1000000000, 1000000000] := by
  decide +kernel
/-- a long failure run (1 ms / 8 ms, the `life` suite's long family): 1, 2, 4, then 8 for ever —
    the 256th, the 400th and the 65537th delay are 8 -/
example : (failures (create 1 8) 8).take 5 = [1, 2, 4, 8, 8] := by decide +kernel
example : (failures (create 1 8) 400)[255]? = some 8 ∧ (failures (create 1 8) 400)[399]? = some 8 :=
  ⟨delay_saturates 1 8 (by decide) 3 (by decide) 400 255 (by decide) (by decide),
   delay_saturates 1 8 (by decide) 3 (by decide) 400 399 (by decide) (by decide)⟩
example : (failures (create 1 8) 70000)[65536]? = some 8 :=
  delay_saturates 1 8 (by decide) 3 (by decide) 70000 65536 (by decide) (by decide)
example : run (create 5 40) [.failed, .failed, .disconnect, .failed, .reset, .failed] = [5, 10, 5, 20, 5] := by
  decide +kernel

end Rodbus.C14
