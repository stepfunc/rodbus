import RodbusModel.Props.C11
/-
  C11 (continued): `stale_frame_never_accepted_rtu` for the states a script can reach, for every
  capacity, timeout limit, decode level and resolution of the scheduler's polling order.  The
  hypothesis `Rtu.StOk` of that theorem is not used by its proof (the discard loop is complete from
  every parser state, `rtu_discardComplete`); here it is discharged by `rtu_stok_reachable`
  (Lemmas/ClientReader): `Rtu.StOk` holds for the fresh parser, `reader.reset()` at the start of a
  session re-establishes it, the reader and the discard loop keep it.
-/
namespace Rodbus.Client

theorem stale_frame_never_accepted_rtu_reachable (cap maxTo : Nat) (d : Decode)
    (coins : List Bool) (steps : List Step) (m : Nat) (r : Req) (m' : Nat) (r' : Req)
    (tx dl : Nat)
    (h : (startRequest rtu (runState rtu (State.init rtu cap maxTo d coins) steps) m r).pos
          = .inflight m' r' tx dl) :
    let t := startRequest rtu (runState rtu (State.init rtu cap maxTo d coins) steps) m r
    (∀ fuel, readerPoll rtu fuel t.pst t.rb [] = (.blocked, t.pst, t.rb, []))
      ∧ ((getMock t m').rx = [] → t.now < dl → tickInflight rtu t m' r' tx dl = none) :=
  stale_frame_never_accepted_rtu (runState rtu (State.init rtu cap maxTo d coins) steps)
    (rtu_stok_reachable cap maxTo d coins steps) m r m' r' tx dl h

namespace Example

def r16 : State Rtu.PState := State.init rtu 16 0 ⟨0, 0, 0⟩ []

/-- the hypothesis of `stale_frame_never_accepted_rtu_reachable` is satisfiable: in a session that
    has received the first three bytes of a frame (the parser waits in `ReadFullBody`, not in its
    initial state), writing a request leaves it in flight -/
example :
    (runState rtu r16 [.newSession, .rx (.data [1, 1, 1])]).pst = .fullBody 1 2
      ∧ (startRequest rtu (runState rtu r16 [.newSession, .rx (.data [1, 1, 1])]) 0
            (rc "a" .future 1000)).pos
          = .inflight 0 (rc "a" .future 1000) 0 1000 := by decide +kernel

/-- the same through the script: the submitted request is taken from the queue, written
    (`01 01 00 00 00 08 3D CC`) and in flight -/
example :
    let s := runState rtu r16
      [.newSession, .rx (.data [1, 1, 1]), .submit .R 0 (rc "a" .future 1000)]
    s.pos = .inflight 0 (rc "a" .future 1000) 0 1000
      ∧ s.log = [.tx [1, 1, 0, 0, 0, 8, 0x3D, 0xCC]] := by decide +kernel

/-- a complete RTU reply (`01 01 01 55` + CRC) received while idle is dropped; the request
    submitted afterwards is not completed by it and times out at its deadline -/
example :
    (runState rtu r16
      [.newSession, .rx (.data [1, 1, 1, 0x55, 0x91, 0xB7]),
       .submit .R 0 (rc "a" .future 10), .advance 10]).log
      = [.done "a" .future .timeout 10, .tx [1, 1, 0, 0, 0, 8, 0x3D, 0xCC]] := by decide +kernel

/-- two replies delivered together while `a` is outstanding and `b` is queued: the first completes
    `a`; the second, received before `b` was transmitted, never becomes the result of `b`,
    whichever branch `select!` polls first -/
example :
    let script := [Step.newSession, .submit .R 0 (rc "a" .future 1000),
      .submit .R 0 (rc "b" .future 1000),
      .rx (.data [1, 1, 1, 0x55, 0x91, 0xB7, 1, 1, 1, 0xFF, 0x11, 0xC8])]
    (doneIds (runState rtu (State.init rtu 16 0 ⟨0, 0, 0⟩ [true]) script).log = ["a"])
      ∧ (doneIds (runState rtu (State.init rtu 16 0 ⟨0, 0, 0⟩ [false]) script).log = ["a"])
      ∧ inflightIds (runState rtu (State.init rtu 16 0 ⟨0, 0, 0⟩ [true]) script).pos = ["b"]
      ∧ inflightIds (runState rtu (State.init rtu 16 0 ⟨0, 0, 0⟩ [false]) script).pos = ["b"] := by
  decide +kernel

end Example

end Rodbus.Client
