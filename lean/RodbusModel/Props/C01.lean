import RodbusModel.Lemmas.ServerDemo
/-
  C01  The server replies exactly as the Modbus application protocol prescribes.

  A PDU is any list of naturals (byte well-formedness is assumed only where stated), a handler any
  state machine over any state type, i.e. every per-address value / exception map.  The
  vocabulary of the statements (`requestOf`, `isBroadcast`, `cfg.allows`, `mkRead`, `writeCalls`,
  …) is defined in Lemmas/ServerCases.lean.
-/
namespace Rodbus.C01
open Rodbus Rodbus.Spec.Server

/-- the model of `SessionTask::handle_frame` produces the reply, the application calls (in order)
    and the new handler states that the declarative reference server prescribes -/
theorem handleFrame_eq_spec {σ : Type} (cfg : ServerCfg σ) (hs : List (Nat × σ)) (f : Frame) :
    handleFrame cfg hs f = respond cfg hs f :=
  handleFrame_eq_respond cfg hs f

/-- with the byte well-formedness hypothesis, which is not needed -/
theorem handleFrame_eq_spec_wf {σ : Type} (cfg : ServerCfg σ) (hs : List (Nat × σ)) (f : Frame)
    (_ : Bytes.WF f.pdu) : handleFrame cfg hs f = respond cfg hs f :=
  handleFrame_eq_respond cfg hs f

/-- `Request::parse` (cursor style: range, limit, byte count, payload, `expect_empty`) accepts
    exactly the bodies that are valid by position and length, and yields the request they denote -/
theorem parse_iff_valid (fc : Fc) (body : Bytes) (r : Request) :
    parseRequest fc body = some r ↔ validBody fc body = true ∧ r = decode fc body := by
  rw [parseRequest_eq]
  split <;> simp [*, eq_comm]

theorem parse_none_iff_invalid (fc : Fc) (body : Bytes) :
    parseRequest fc body = none ↔ validBody fc body = false := by
  rw [parseRequest_eq]; cases validBody fc body <;> simp

/-- `requestOf` (used below to say "the frame is a valid request") means: known function code
    followed by a valid body -/
theorem request_of_frame (f : Frame) (req : Request) :
    requestOf f = some req ↔
      ∃ b body fc, f.pdu = b :: body ∧ Fc.ofByte b = some fc ∧ validBody fc body = true
        ∧ req = decode fc body :=
  requestOf_some_iff f req

/-- a session of the model is the same session of the reference server (`specRun`: the fold of
    `respond` over the frames) -/
theorem runFrames_eq_spec {σ : Type} (cfg : ServerCfg σ) (hs : List (Nat × σ)) (fs : List Frame) :
    runFrames cfg hs fs = specRun cfg hs fs := by
  induction fs generalizing hs with
  | nil => rfl
  | cons f fs ih => simp only [runFrames, specRun, handleFrame_eq_respond, ih]; rfl

/-- MBAP: transaction id of the request, protocol id 0, length = PDU + unit byte, unit id, PDU -/
theorem reply_framing_tcp (f : Frame) (tx : Nat) (h : f.tx = some tx) (pdu : Bytes) :
    frameReply false f pdu = u16be tx ++ [0, 0] ++ u16be (pdu.length + 1) ++ [f.dest] ++ pdu := by
  simp [frameReply, Mbap.format, h]

/-- RTU: address of the request, PDU, CRC-16 of both, low byte first -/
theorem reply_framing_rtu (f : Frame) (pdu : Bytes) :
    frameReply true f pdu = [f.dest] ++ pdu ++ u16le (Crc.crc ([f.dest] ++ pdu)) := by
  simp [frameReply, Rtu.format]

/-- every reply PDU the server produces has at most 253 bytes (read quantities are ≤ 2000 / 125) -/
theorem reply_pdu_len {σ : Type} (cfg : ServerCfg σ) (hs : List (Nat × σ)) (f : Frame)
    (pdu : Bytes) (h : (handleFrame cfg hs f).reply = some pdu) : pdu.length ≤ 253 := by
  have hh := handleFrame_handled cfg hs f
  generalize handleFrame cfg hs f = o at h hh
  cases hh with
  | rejected | denied => split at h <;> cases h; exact (by decide : 2 ≤ 253)
  | served req s hreq => cases h; exact serve_reply_len _ _ _ _ (requestOf_inLimits hreq)
  | _ => cases h

/-- …so the framed reply never exceeds the 260-byte writer buffer: MBAP ≤ 7 + 253, RTU ≤ 1 + 253 + 2 -/
theorem framed_reply_len {σ : Type} (cfg : ServerCfg σ) (hs : List (Nat × σ)) (f : Frame)
    (pdu : Bytes) (h : (handleFrame cfg hs f).reply = some pdu) :
    (frameReply false f pdu).length ≤ 260 ∧ (frameReply true f pdu).length ≤ 256 := by
  have := reply_pdu_len cfg hs f pdu h
  simp [frameReply, Mbap.format, Rtu.format, u16be, u16le]; omega

theorem empty_pdu_silent {σ : Type} (cfg : ServerCfg σ) (hs : List (Nat × σ)) (f : Frame)
    (h : f.pdu = []) : handleFrame cfg hs f = ⟨none, [], hs⟩ := by
  rw [handleFrame_no_request cfg hs f (by simp [requestOf, h])]; simp [h]

/-- a function code that is not one of the eight supported ones, sent to a configured unit:
    exception 01 with the function byte `| 0x80`, no calls, nothing changes -/
theorem unknown_function_reply {σ : Type} (cfg : ServerCfg σ) (hs : List (Nat × σ)) (f : Frame)
    (b : Nat) (body : Bytes) (s : σ) (hp : f.pdu = b :: body) (hfc : Fc.ofByte b = none)
    (hb : isBroadcast cfg f = false) (hl : lookupUnit hs f.dest = some s) :
    handleFrame cfg hs f = ⟨some [orErr b, 1], [], hs⟩ := by
  rw [handleFrame_no_request cfg hs f (by simp [requestOf, hp, hfc])]; simp [hp, hfc, hb, hl]

theorem unknown_function_iff (b : Nat) :
    Fc.ofByte b = none ↔ b ∉ [1, 2, 3, 4, 5, 6, 15, 16] := by
  rw [Fc.ofByte_lookup, List.lookup_eq_none_iff]
  -- the listed bytes are the keys of the table
  show _ ↔ b ∉ (Fc.all.map fun fc => (fc.toByte, fc)).map Prod.fst
  simp only [List.mem_map, bne_iff_ne, ne_eq]
  exact ⟨fun h ⟨p, hp, he⟩ => h p hp he.symm, fun h p hp he => h ⟨p, hp, he.symm⟩⟩

theorem orErr_is_or_0x80 (b : Nat) (h : b < 256) : orErr b = b ||| 0x80 := by
  revert b; decide +kernel

/-- a supported function with an invalid body (wrong length, quantity 0 or over the limit,
    address overflow, undefined coil value), sent to a configured unit: exception 03 -/
theorem invalid_request_reply {σ : Type} (cfg : ServerCfg σ) (hs : List (Nat × σ)) (f : Frame)
    (fc : Fc) (body : Bytes) (s : σ) (hp : f.pdu = fc.toByte :: body)
    (hv : validBody fc body = false)
    (hb : isBroadcast cfg f = false) (hl : lookupUnit hs f.dest = some s) :
    handleFrame cfg hs f = ⟨some [fc.toByte + 128, 3], [], hs⟩ := by
  rw [handleFrame_no_request cfg hs f (by simp [requestOf, hp, Fc.ofByte_toByte, hv])]
  simp [hp, Fc.ofByte_toByte, orErr_toByte, hb, hl]

/-- a frame for a unit id nobody is configured for is never answered and never reaches a handler,
    unless an authorization handler denies it (that case is `C08.deny_no_effect`) -/
theorem unconfigured_silent {σ : Type} (cfg : ServerCfg σ) (hs : List (Nat × σ)) (f : Frame)
    (hb : isBroadcast cfg f = false) (hl : lookupUnit hs f.dest = none)
    (hok : ∀ req, requestOf f = some req → cfg.allows f.dest req = true) :
    (handleFrame cfg hs f).reply = none ∧ (∀ c ∈ (handleFrame cfg hs f).calls, c.isAuth = true)
      ∧ (handleFrame cfg hs f).states = hs := by
  cases hreq : requestOf f with
  | none => rw [handleFrame_no_request cfg hs f hreq]; simp [hl]
  | some req =>
    rw [handleFrame_request cfg hs f hreq]
    simp only [hok req hreq, hb, hl, Bool.true_eq_false, Bool.false_eq_true, if_false]
    exact ⟨trivial, question_isAuth cfg f.dest req, trivial⟩

theorem served {σ : Type} (cfg : ServerCfg σ) (hs : List (Nat × σ)) (f : Frame) (req : Request)
    (s : σ) (hreq : requestOf f = some req) (hb : isBroadcast cfg f = false)
    (hl : lookupUnit hs f.dest = some s) (ha : cfg.allows f.dest req = true) :
    handleFrame cfg hs f =
      ⟨some (serve cfg.H f.dest s req).1, cfg.question f.dest req ++ (serve cfg.H f.dest s req).2.1,
        setUnit hs f.dest (serve cfg.H f.dest s req).2.2⟩ := by
  rw [handleFrame_request cfg hs f hreq]; simp [ha, hb, hl]

theorem read_request_of_frame (f : Frame) (fc : Fc) (body : Bytes) (hr : fc.isRead = true)
    (hp : f.pdu = fc.toByte :: body) (hv : validBody fc body = true) :
    requestOf f = some (mkRead fc ⟨u16At body 0, u16At body 2⟩) := by
  simp [requestOf, hp, Fc.ofByte_toByte, hv, decode_read fc hr]

/-- Read coils / discrete inputs, all `n = r.count` addresses readable: the reply is the function
    code, the byte count ⌈n/8⌉ and ⌈n/8⌉ payload bytes; bit `k` of byte `j` is the value at
    address `start + 8j + k` when `8j + k < n`, and 0 (padding) otherwise. -/
theorem read_bits_payload {σ : Type} (cfg : ServerCfg σ) (hs : List (Nat × σ)) (f : Frame)
    (fc : Fc) (r : Range) (s : σ) (hfc : fc = .readCoils ∨ fc = .readDiscreteInputs)
    (hreq : requestOf f = some (mkRead fc r)) (hb : isBroadcast cfg f = false)
    (hl : lookupUnit hs f.dest = some s) (ha : cfg.allows f.dest (mkRead fc r) = true)
    (hok : ∀ i < r.count, ∃ v, cfg.H.readBit fc s (r.start + i) = .ok v) :
    ∃ payload, (handleFrame cfg hs f).reply = some (fc.toByte :: (r.count + 7) / 8 :: payload)
      ∧ payload.length = (r.count + 7) / 8 ∧ Bytes.WF payload
      ∧ ∀ j k, k < 8 → (payload.getD j 0 / 2 ^ k % 2 = 1 ↔
          (8 * j + k < r.count ∧ cfg.H.readBit fc s (r.start + (8 * j + k)) = .ok true)) := by
  have hok' : ∀ i < r.count, cfg.H.readErr fc s (r.start + i) = none := fun i hi => by
    rw [readErr_bit _ _ hfc]; exact (errOf_eq_none _).2 (hok i hi)
  have hr : fc.isRead = true := by rcases hfc with rfl | rfl <;> rfl
  refine ⟨packBits ((List.range r.count).map fun i => valOr false (cfg.H.readBit fc s (r.start + i))),
    ?_, by simp [packBits_length, numBytesForBits], packBits_wf _, fun j k hk => ?_⟩
  · rw [served cfg hs f _ s hreq hb hl ha, serve_read _ _ _ _ _ hr, firstErr_eq_none hok']
    rcases hfc with rfl | rfl <;> rfl
  rw [packBits_bit _ _ _ hk]
  by_cases hi : 8 * j + k < r.count
  · obtain ⟨v, hv⟩ := hok _ hi
    simp [List.getD_eq_getElem?_getD, hi, hv, valOr]
  · simp [List.getD_eq_getElem?_getD, hi]

/-- Read holding / input registers, all `n = r.count` addresses readable: function code, byte
    count `2n`, then `2n` payload bytes; register `i` (the value at `start + i`) occupies bytes
    `2i` (high) and `2i + 1` (low). -/
theorem read_regs_payload {σ : Type} (cfg : ServerCfg σ) (hs : List (Nat × σ)) (f : Frame)
    (fc : Fc) (r : Range) (s : σ) (hfc : fc = .readHoldingRegisters ∨ fc = .readInputRegisters)
    (hreq : requestOf f = some (mkRead fc r)) (hb : isBroadcast cfg f = false)
    (hl : lookupUnit hs f.dest = some s) (ha : cfg.allows f.dest (mkRead fc r) = true)
    (hok : ∀ i < r.count, ∃ v, cfg.H.readReg fc s (r.start + i) = .ok v) :
    ∃ payload, (handleFrame cfg hs f).reply = some (fc.toByte :: 2 * r.count :: payload)
      ∧ payload.length = 2 * r.count ∧ Bytes.WF payload
      ∧ ∀ i v, i < r.count → cfg.H.readReg fc s (r.start + i) = .ok v →
          payload.getD (2 * i) 0 = v / 256 % 256 ∧ payload.getD (2 * i + 1) 0 = v % 256 := by
  have hok' : ∀ i < r.count, cfg.H.readErr fc s (r.start + i) = none := fun i hi => by
    rw [readErr_reg _ _ hfc]; exact (errOf_eq_none _).2 (hok i hi)
  refine ⟨packRegs ((List.range r.count).map fun i => valOr 0 (cfg.H.readReg fc s (r.start + i))),
    ?_, ?_, packRegs_wf _, ?_⟩
  · rw [served cfg hs f _ s hreq hb hl ha,
      serve_read _ _ _ _ _ (by rcases hfc with rfl | rfl <;> rfl), firstErr_eq_none hok']
    rcases hfc with rfl | rfl <;> rfl
  · simp [packRegs_length]
  · intro i v hi hv
    have := packRegs_getD ((List.range r.count).map fun i => valOr 0 (cfg.H.readReg fc s (r.start + i)))
      i (by simpa using hi)
    simpa [hv, valOr] using this

/-- the byte-count field of a read reply fits its byte (`calc_bytes_for_bits` /
    `calc_bytes_for_registers` cannot fail): at most 250 for every valid read request -/
theorem read_byte_count_fits (f : Frame) (fc : Fc) (r : Range) (hr : fc.isRead = true)
    (hreq : requestOf f = some (mkRead fc r)) :
    ((fc = .readCoils ∨ fc = .readDiscreteInputs) → (r.count + 7) / 8 ≤ 250)
    ∧ ((fc = .readHoldingRegisters ∨ fc = .readInputRegisters) → 2 * r.count ≤ 250) := by
  have h := requestOf_inLimits hreq
  constructor
  · rintro (rfl | rfl) <;> (simp only [mkRead, Request.InLimits] at h; omega)
  · rintro (rfl | rfl) <;> (simp only [mkRead, Request.InLimits] at h; omega)

/-- If some address of a read raises an exception, the reply is `[fc | 0x80, e]` for the FIRST such
    address in ascending order (the handler is not asked about later addresses: C02). -/
theorem first_exception_reply {σ : Type} (cfg : ServerCfg σ) (hs : List (Nat × σ)) (f : Frame)
    (fc : Fc) (r : Range) (s : σ) (hr : fc.isRead = true)
    (hreq : requestOf f = some (mkRead fc r)) (hb : isBroadcast cfg f = false)
    (hl : lookupUnit hs f.dest = some s) (ha : cfg.allows f.dest (mkRead fc r) = true)
    (k e : Nat) (hk : k < r.count) (he : cfg.H.readErr fc s (r.start + k) = some e)
    (hbefore : ∀ i < k, cfg.H.readErr fc s (r.start + i) = none) :
    (handleFrame cfg hs f).reply = some [fc.toByte + 128, e] := by
  rw [served cfg hs f _ s hreq hb hl ha, serve_read _ _ _ _ _ hr, firstErr_eq_some hk he hbefore,
    orErr_toByte]

/-- `readErr` is the exception (as its wire byte) the handler's read callback returns -/
theorem readErr_meaning {σ : Type} (H : Handler σ) (s : σ) (a e : Nat) :
    (H.readErr .readCoils s a = some e ↔ H.readCoil s a = .error e)
    ∧ (H.readErr .readDiscreteInputs s a = some e ↔ H.readDiscreteInput s a = .error e)
    ∧ (H.readErr .readHoldingRegisters s a = some e ↔ H.readHoldingRegister s a = .error e)
    ∧ (H.readErr .readInputRegisters s a = some e ↔ H.readInputRegister s a = .error e) :=
  ⟨errOf_eq_some _ _, errOf_eq_some _ _, errOf_eq_some _ _, errOf_eq_some _ _⟩

/-- a served write is answered with function code + echo if the handler accepts it, and with
    `[fc | 0x80, e]` if the handler raises `e` -/
theorem write_echo {σ : Type} (cfg : ServerCfg σ) (hs : List (Nat × σ)) (f : Frame) (req : Request)
    (s : σ) (hreq : requestOf f = some req) (hw : isWrite req = true)
    (hb : isBroadcast cfg f = false) (hl : lookupUnit hs f.dest = some s)
    (ha : cfg.allows f.dest req = true) :
    (handleFrame cfg hs f).reply = some
      (match (cfg.H.applyWrite s req).1 with
        | .ok () => req.fc.toByte :: writeEcho req
        | .error e => [req.fc.toByte + 128, e]) := by
  rw [served cfg hs f _ s hreq hb hl ha, serve_write _ _ _ _ hw, orErr_toByte]; rfl

/-- …and the echo is literally the first five bytes of the request PDU (function code, address,
    value / function code, start, quantity), given that the request bytes are bytes -/
theorem write_echo_is_request_prefix {σ : Type} (cfg : ServerCfg σ) (hs : List (Nat × σ))
    (f : Frame) (req : Request) (s : σ) (hwf : Bytes.WF f.pdu)
    (hreq : requestOf f = some req) (hw : isWrite req = true)
    (hb : isBroadcast cfg f = false) (hl : lookupUnit hs f.dest = some s)
    (ha : cfg.allows f.dest req = true) (hok : (cfg.H.applyWrite s req).1 = .ok ()) :
    (handleFrame cfg hs f).reply = some (f.pdu.take 5) := by
  rw [write_echo cfg hs f req s hreq hw hb hl ha, hok]
  obtain ⟨b, body, fc, hp, hfc, hv, rfl⟩ := (requestOf_some_iff f _).1 hreq
  rw [hp] at hwf ⊢
  simp only [decode_fc]
  rw [writeEcho_decode hfc (Bytes.WF_cons.1 hwf).2 hv hw]

/-- replies and calls come in the order of the frames, each frame handled in the states its
    predecessors left behind (frame level, `runFrames`; sessions over bytes: Props/C01Session) -/
theorem session_replies {σ : Type} (cfg : ServerCfg σ) (hs : List (Nat × σ)) (fs gs : List Frame) :
    (runFrames cfg hs (fs ++ gs)).1 =
        (runFrames cfg hs fs).1 ++ (runFrames cfg (runFrames cfg hs fs).2.2 gs).1
    ∧ (runFrames cfg hs (fs ++ gs)).2.1 =
        (runFrames cfg hs fs).2.1 ++ (runFrames cfg (runFrames cfg hs fs).2.2 gs).2.1
    ∧ (runFrames cfg hs (fs ++ gs)).2.2 = (runFrames cfg (runFrames cfg hs fs).2.2 gs).2.2 := by
  rw [runFrames_append]; exact ⟨rfl, rfl, rfl⟩

theorem session_replies_cons {σ : Type} (cfg : ServerCfg σ) (hs : List (Nat × σ)) (f : Frame)
    (fs : List Frame) :
    (runFrames cfg hs (f :: fs)).1 =
      (match (handleFrame cfg hs f).reply with | some p => [(f, p)] | none => [])
        ++ (runFrames cfg (handleFrame cfg hs f).states fs).1 := rfl

theorem session_units_constant {σ : Type} (cfg : ServerCfg σ) (hs : List (Nat × σ))
    (fs : List Frame) : (runFrames cfg hs fs).2.2.map Prod.fst = hs.map Prod.fst := by
  induction fs generalizing hs with
  | nil => rfl
  | cons f fs ih => simp only [runFrames]; rw [ih, handleFrame_keys]

-- concrete frames against the two-unit configuration of Lemmas/ServerDemo.lean
open Demo

/-- read 8 coils of unit 1 over TCP: one payload byte, LSB = coil 0 -/
example : (handleFrame tcp units ⟨some 7, 1, readCoils8⟩).reply = some [1, 1, 0x4D] := by
  decide +kernel

/-- read 10 coils: two payload bytes, six zero padding bits -/
example : (handleFrame tcp units ⟨some 7, 1, readCoils10⟩).reply = some [1, 2, 0x4D, 0x03] := by
  decide +kernel

example : (handleFrame tcp units ⟨some 7, 1, readRegs3⟩).reply
    = some [3, 6, 0x12, 0x34, 0xAB, 0xCD, 0, 7] := by
  decide +kernel

/-- address 3 does not exist: exception 02, and only addresses 2 and 3 were asked for -/
example : (handleFrame tcp units ⟨some 7, 1, readRegsFail⟩).reply = some [0x83, 2]
    ∧ (handleFrame tcp units ⟨some 7, 1, readRegsFail⟩).calls
        = [.readHoldingRegister 1 2, .readHoldingRegister 1 3] := by
  decide +kernel

example : (handleFrame tcp units ⟨some 7, 1, writeCoil⟩).reply = some writeCoil := by
  decide +kernel

example : (handleFrame tcp units ⟨some 7, 1, writeRegs⟩).reply = some [16, 0, 0, 0, 2]
    ∧ lookupUnit (handleFrame tcp units ⟨some 7, 1, writeRegs⟩).states 1
        = some ⟨db1.coils, [0x0102, 0x0304, 7]⟩ := by
  decide +kernel

example : (handleFrame tcp units ⟨some 7, 1, readZero⟩).reply = some [0x81, 3] := by
  decide +kernel

example : (handleFrame tcp units ⟨some 7, 1, [0x2B, 14, 1, 0]⟩).reply = some [0xAB, 1] := by
  decide +kernel

/-- unit 9 is not configured: silence even for garbage -/
example : (handleFrame tcp units ⟨some 7, 9, [0x2B, 14, 1, 0]⟩).reply = none := by
  decide +kernel

/-- the hypotheses of `read_bits_payload` are satisfiable -/
example : requestOf ⟨some 7, 1, readCoils8⟩ = some (mkRead .readCoils ⟨0, 8⟩)
    ∧ isBroadcast tcp ⟨some 7, 1, readCoils8⟩ = false ∧ lookupUnit units 1 = some db1
    ∧ tcp.allows 1 (mkRead .readCoils ⟨0, 8⟩) = true
    ∧ ∀ i < 8, ∃ v, H.readBit .readCoils db1 (0 + i) = .ok v := by
  refine ⟨by decide +kernel, by decide +kernel, by decide +kernel, by decide +kernel,
    fun i hi => (errOf_eq_none _).1 ?_⟩
  revert i; decide +kernel

/-- the hypotheses of `write_echo_is_request_prefix` (including the byte well-formedness of the
    PDU) are satisfiable, and its conclusion is what evaluation gives -/
example : Bytes.WF writeRegs ∧ requestOf ⟨some 7, 1, writeRegs⟩
      = some (.writeMultipleRegisters ⟨0, 2⟩ [0x0102, 0x0304])
    ∧ (H.applyWrite db1 (.writeMultipleRegisters ⟨0, 2⟩ [0x0102, 0x0304])).1 = .ok ()
    ∧ writeRegs.take 5 = [16, 0, 0, 0, 2] := ⟨by decide +kernel, by decide +kernel, rfl, by decide +kernel⟩

example : frameReply false ⟨some 7, 1, readCoils8⟩ [1, 1, 0x4D] = [0, 7, 0, 0, 0, 4, 1, 1, 1, 0x4D] := by
  decide +kernel

end Rodbus.C01
