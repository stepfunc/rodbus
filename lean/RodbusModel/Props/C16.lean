import RodbusModel.Model.Filter
/-
  C16 — Only peers matching the address filter are served: the pure part (matching and the
  wildcard parser).  The accept path (`filter.matches(addr.ip())` guards every session / TLS
  handshake, in every server variant and through the C ABI) is in the generated
  forwarded-filter table (`C18.forwards_filter`) and in the loopback runs.
-/
namespace Rodbus.C16
open Rodbus.Filter

def Field.Accepts (f : Field) (b : Nat) : Prop :=
  match f with
  | .any => True
  | .lit x => b = x

def Meaning : AddressFilter → Addr → Prop
  | .any, _ => True
  | .exact x, a => x = a
  | .anyOf set, a => a ∈ set
  | .wildcard w, .v4 a b c d =>
    Field.Accepts w.b3 a ∧ Field.Accepts w.b2 b ∧ Field.Accepts w.b1 c ∧ Field.Accepts w.b0 d
  | .wildcard _, .v6 _ => False

theorem fieldMatches_iff (b : Nat) (f : Field) : fieldMatches b f = true ↔ Field.Accepts f b := by
  cases f <;> simp [fieldMatches, Field.Accepts]

/-- `AddressFilter::matches` decides exactly the declarative meaning, for every filter and every
    peer address (IPv6 never matches a wildcard) -/
theorem matches_spec (f : AddressFilter) (a : Addr) : f.matches a = true ↔ Meaning f a := by
  cases f with
  | any => simp [AddressFilter.matches, Meaning]
  | exact x => simp [AddressFilter.matches, Meaning]
  | anyOf set => simp [AddressFilter.matches, Meaning]
  | wildcard w =>
    cases a with
    | v4 a b c d =>
      simp only [AddressFilter.matches, Wildcard.matches, Meaning, Bool.and_eq_true, fieldMatches_iff,
        and_assoc]
    | v6 w6 => simp [AddressFilter.matches, Wildcard.matches, Meaning]

theorem star_matches_all_v4 (a b c d : Nat) :
    (AddressFilter.wildcard ⟨.any, .any, .any, .any⟩).matches (.v4 a b c d) = true := rfl
theorem wildcard_never_v6 (w : Wildcard) (x : List Nat) :
    (AddressFilter.wildcard w).matches (.v6 x) = false := rfl

/-- a well-formed field: `*`, or what `u8::from_str` accepts -/
def FieldOk (s : List Char) (f : Field) : Prop :=
  (s = ['*'] ∧ f = .any) ∨ (s ≠ ['*'] ∧ ∃ n, parseU8 s = some n ∧ f = .lit n)

theorem getByte_iff (s : List Char) (f : Field) : getByte s = some f ↔ FieldOk s f := by
  unfold getByte FieldOk
  by_cases h : s = ['*']
  · simp [h, eq_comm]
  · simp [h]
    constructor
    · rintro ⟨n, hn, rfl⟩; exact ⟨n, hn, rfl⟩
    · rintro ⟨n, hn, rfl⟩; exact ⟨n, hn, rfl⟩

theorem parseDigits_le (ds : List Char) (n : Nat) (h : parseDigits ds = some n) : n ≤ 255 := by
  unfold parseDigits at h
  split at h
  · split at h
    · cases h; assumption
    · cases h
  · cases h

theorem parseU8_le (s : List Char) (n : Nat) (h : parseU8 s = some n) : n ≤ 255 := by
  unfold parseU8 at h
  split at h
  · cases h
  · exact parseDigits_le _ _ h

theorem parseU8_nonempty (s : List Char) (n : Nat) (h : parseU8 s = some n) : s ≠ [] := by
  intro e; subst e; simp [parseU8] at h

/-- a string parses iff it splits on `.` into exactly four fields each of which is `*` or a
    numeral accepted by `u8::from_str`; the result is their meaning -/
theorem wildcard_parse_iff (s : List Char) (w : Wildcard) :
    parseWildcard s = some w ↔
      ∃ f3 f2 f1 f0, splitDots s = [f3, f2, f1, f0] ∧
        FieldOk f3 w.b3 ∧ FieldOk f2 w.b2 ∧ FieldOk f1 w.b1 ∧ FieldOk f0 w.b0 := by
  unfold parseWildcard
  constructor
  · intro h
    split at h
    · rename_i f3 f2 f1 f0 heq
      split at h
      · rename_i a b c d ha hb hc hd
        cases h
        exact ⟨f3, f2, f1, f0, heq, (getByte_iff _ _).1 ha, (getByte_iff _ _).1 hb,
          (getByte_iff _ _).1 hc, (getByte_iff _ _).1 hd⟩
      · cases h
    · cases h
  · rintro ⟨f3, f2, f1, f0, heq, h3, h2, h1, h0⟩
    rw [heq]
    simp only
    rw [(getByte_iff _ _).2 h3, (getByte_iff _ _).2 h2, (getByte_iff _ _).2 h1, (getByte_iff _ _).2 h0]

theorem wrong_field_count_rejected (s : List Char) (h : (splitDots s).length ≠ 4) :
    parseWildcard s = none := by
  unfold parseWildcard
  split
  · rename_i heq; rw [heq] at h; simp at h
  · rfl

theorem FieldOk.octet {s : List Char} {f : Field} {n : Nat} (h : FieldOk s f) (e : f = .lit n) :
    n ≤ 255 := by
  rcases h with ⟨_, e'⟩ | ⟨_, m, hm, e'⟩ <;> rw [e'] at e <;> cases e
  exact parseU8_le _ _ hm

theorem parsed_fields_are_octets (s : List Char) (w : Wildcard) (h : parseWildcard s = some w) :
    ∀ f ∈ [w.b3, w.b2, w.b1, w.b0], ∀ n, f = .lit n → n ≤ 255 := by
  obtain ⟨f3, f2, f1, f0, _, h3, h2, h1, h0⟩ := (wildcard_parse_iff s w).1 h
  intro f hf n hn
  simp only [List.mem_cons, List.not_mem_nil, or_false] at hf
  rcases hf with rfl | rfl | rfl | rfl
  · exact h3.octet hn
  · exact h2.octet hn
  · exact h1.octet hn
  · exact h0.octet hn

theorem splitDots_ne_nil (s : List Char) : splitDots s ≠ [] := by
  cases s with
  | nil => simp [splitDots]
  | cons c cs =>
    simp only [splitDots]
    split
    · simp
    · split <;> simp

def joinDots : List (List Char) → List Char
  | [] => []
  | [f] => f
  | f :: g :: rest => f ++ '.' :: joinDots (g :: rest)

theorem joinDots_cons_cons (c : Char) (f : List Char) (fs : List (List Char)) :
    joinDots ((c :: f) :: fs) = c :: joinDots (f :: fs) := by
  cases fs <;> rfl

/-- `splitDots` loses nothing: joining the fields with `.` gives the string back, and no field
    contains a `.` -/
theorem splitDots_join (s : List Char) : joinDots (splitDots s) = s := by
  induction s with
  | nil => rfl
  | cons c cs ih =>
    obtain ⟨f, fs, hsp⟩ := List.exists_cons_of_ne_nil (splitDots_ne_nil cs)
    rw [hsp] at ih
    rw [splitDots, hsp]
    split
    · rw [joinDots, ih, ‹c = '.'›]; rfl
    · rw [joinDots_cons_cons, ih]

theorem splitDots_no_dot (s : List Char) : ∀ f ∈ splitDots s, '.' ∉ f := by
  induction s with
  | nil => exact fun f hf => by cases List.mem_singleton.mp hf; exact List.not_mem_nil
  | cons c cs ih =>
    obtain ⟨f, fs, hsp⟩ := List.exists_cons_of_ne_nil (splitDots_ne_nil cs)
    rw [hsp] at ih
    rw [splitDots, hsp]
    obtain ⟨hf, hfs⟩ := List.forall_mem_cons.mp ih
    split
    · exact List.forall_mem_cons.mpr ⟨List.not_mem_nil, ih⟩
    · exact List.forall_mem_cons.mpr
        ⟨fun hm => (List.mem_cons.mp hm).elim (fun e => ‹¬c = '.'› e.symm) hf, hfs⟩

/-- non-vacuity: the repository's own examples and the lenient numerals -/
example : parseWildcard "172.17.20.*".toList = some ⟨.lit 172, .lit 17, .lit 20, .any⟩ := by decide +kernel
example : parseWildcard "*.*.*.*".toList = some ⟨.any, .any, .any, .any⟩ := by decide +kernel
example : parseWildcard "+1.02.3.4".toList = some ⟨.lit 1, .lit 2, .lit 3, .lit 4⟩ := by decide +kernel
example : parseWildcard "1.2.3".toList = none := by decide +kernel
example : parseWildcard "1.2.3.4.5".toList = none := by decide +kernel
example : parseWildcard "1.2.3.256".toList = none := by decide +kernel
example : parseWildcard "1.2.3.".toList = none := by decide +kernel
example : parseWildcard "1.2.3.-4".toList = none := by decide +kernel
example : parseWildcard "1.2.3.**".toList = none := by decide +kernel
example : parseWildcard "".toList = none := by decide +kernel
example : (AddressFilter.wildcard ⟨.lit 172, .lit 17, .lit 20, .any⟩).matches (.v4 172 17 20 99) = true := by decide +kernel
example : (AddressFilter.wildcard ⟨.lit 172, .lit 17, .lit 20, .any⟩).matches (.v4 172 17 21 99) = false := by decide +kernel

end Rodbus.C16
