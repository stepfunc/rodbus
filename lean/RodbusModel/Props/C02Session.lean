import RodbusModel.Props.C02
import RodbusModel.Lemmas.ServerSession
import RodbusModel.Props.C01Stream
import RodbusModel.Props.C06Span
/-
  C02, session lift.  `C02.calls_justified` and `C02.invalid_no_effect` speak about one frame;
  here the same is proved about everything a session (`runSession`, Model/Session.lean) calls:
  every handler call is justified by a frame that the reader delivered before its first framing
  error; a framing error (bad MBAP header, bad CRC, …) contributes no call, no reply, no state
  change, and ends the session; frames that are not requests contribute no handler call either.
-/
namespace Rodbus.C02
open Rodbus Rodbus.Spec.Server

/-- the conclusion of `calls_justified`, as a predicate: the handler call `c` is justified by the
    frame `f` on a server whose configured unit ids are `units` -/
def Justified {σ : Type} (cfg : ServerCfg σ) (units : List Nat) (f : Frame) (c : Call) : Prop :=
  ∃ req, requestOf f = some req ∧ cfg.allows f.dest req = true ∧
    ((isBroadcast cfg f = false ∧ f.dest ∈ units ∧
        ((isWrite req = true ∧ c ∈ writeCalls req f.dest) ∨
         (∃ fc r a, fc.isRead = true ∧ req = mkRead fc r ∧ c = readCall fc f.dest a
            ∧ r.start ≤ a ∧ a < r.start + r.count)))
     ∨ (isBroadcast cfg f = true ∧ isWrite req = true ∧ ∃ u ∈ units, c ∈ writeCalls req u))

theorem runFrames_calls_justified {σ : Type} (cfg : ServerCfg σ) (hs : List (Nat × σ))
    (fs : List Frame) (c : Call) (hc : c ∈ (runFrames cfg hs fs).2.1) (hna : c.isAuth = false) :
    ∃ f ∈ fs, Justified cfg (hs.map Prod.fst) f c := by
  induction fs generalizing hs with
  | nil => simp [runFrames] at hc
  | cons f fs ih =>
    simp only [runFrames, List.mem_append] at hc
    rcases hc with hc | hc
    · exact ⟨f, by simp, calls_justified cfg hs f c hc hna⟩
    · obtain ⟨g, hg, hj⟩ := ih _ hc
      rw [handleFrame_keys] at hj
      exact ⟨g, by simp [hg], hj⟩

/-- event-list level: every handler call of a session over ANY event list is justified by a
    frame event that is preceded by frame events only (no framing error before it) -/
theorem events_calls_justified {σ : Type} (fr : Framing) (cfg : ServerCfg σ) (k : EndKind)
    (hs : List (Nat × σ)) (evs : List Event) (c : Call)
    (hc : c ∈ (handleEvents fr cfg k hs evs).calls) (hna : c.isAuth = false) :
    ∃ (pre : List Frame) (f : Frame) (post : List Event),
      evs = pre.map Event.frame ++ Event.frame f :: post
        ∧ Justified cfg (hs.map Prod.fst) f c := by
  rw [handleEvents_eq_runFrames] at hc
  obtain ⟨f, hf, hj⟩ := runFrames_calls_justified cfg hs _ c hc hna
  obtain ⟨pre, post, he⟩ := (mem_framesBeforeError_iff evs f).1 hf
  exact ⟨pre, f, post, he, hj⟩

/-- every non-authorization call of a session is justified (in the sense of `calls_justified`) by
    a frame that the reader delivered before its first framing error -/
theorem session_calls_justified {σ : Type} (fr : Framing) (cfg : ServerCfg σ) (l : DecodeLevel)
    (hs : List (Nat × σ)) (script : List SessStep) (c : Call)
    (hc : c ∈ (runSession fr cfg l hs script).calls) (hna : c.isAuth = false) :
    ∃ (pre : List Frame) (f : Frame) (post : List Event),
      readerRun fr (cutScript script).1 = pre.map Event.frame ++ Event.frame f :: post
        ∧ Justified cfg (hs.map Prod.fst) f c :=
  events_calls_justified fr cfg _ hs _ c hc hna

/-- the same with the frame located in the byte stream: for a session fed by data segments and
    closed by the peer, the justifying frame is a frame of the whole-stream specification
    (`C01Stream.specEvents`: MBAP header + length / RTU length rule + CRC), whatever the
    segmentation -/
theorem stream_calls_justified {σ : Type} (fr : Framing) (cfg : ServerCfg σ) (l : DecodeLevel)
    (hs : List (Nat × σ)) (chunks : List Bytes) (c : Call)
    (hc : c ∈ (runSession fr cfg l hs (chunks.map SessStep.data ++ [.eof])).calls)
    (hna : c.isAuth = false) :
    ∃ (pre : List Frame) (f : Frame) (post : List Event),
      C01Stream.specEvents fr chunks.flatten = pre.map Event.frame ++ Event.frame f :: post
        ∧ Justified cfg (hs.map Prod.fst) f c := by
  rw [C01Stream.stream_replies] at hc
  exact events_calls_justified fr cfg _ hs _ c hc hna

/-- a framing error after the frames `pre` — whatever follows it — contributes nothing: the
    calls, replies and states are those of `pre` alone, and the session ends with `badFrame e` -/
theorem framing_error_ends_session {σ : Type} (fr : Framing) (cfg : ServerCfg σ) (k : EndKind)
    (hs : List (Nat × σ)) (pre : List Frame) (e : FrameErr) (post : List Event) :
    handleEvents fr cfg k hs (pre.map Event.frame ++ Event.err e :: post)
        = handleEvents fr cfg (.badFrame e) hs (pre.map Event.frame)
    ∧ (handleEvents fr cfg k hs (pre.map Event.frame ++ Event.err e :: post)).calls
        = (runFrames cfg hs pre).2.1
    ∧ (handleEvents fr cfg k hs (pre.map Event.frame ++ Event.err e :: post)).states
        = (runFrames cfg hs pre).2.2
    ∧ (handleEvents fr cfg k hs (pre.map Event.frame ++ Event.err e :: post)).tx
        = ((runFrames cfg hs pre).1.map fun p => frameOut fr p.1 p.2).flatten
    ∧ (handleEvents fr cfg k hs (pre.map Event.frame ++ Event.err e :: post)).ended
        = .badFrame e := by
  have h3 := framesBeforeError_append pre []
  have h4 := firstError_append pre []
  simp only [List.append_nil, framesBeforeError, firstError] at h3 h4
  simp [handleEvents_eq_runFrames, framesBeforeError_err, h3, h4, endOf, firstError_append, firstError]

theorem framing_error_first {σ : Type} (fr : Framing) (cfg : ServerCfg σ) (k : EndKind)
    (hs : List (Nat × σ)) (e : FrameErr) (post : List Event) :
    handleEvents fr cfg k hs (Event.err e :: post) = ⟨[], [], hs, .badFrame e⟩ := rfl

/-- for every script whose reader reports a framing error: the session ends with that error, and
    its calls are exactly those of the frames delivered before it -/
theorem session_framing_error {σ : Type} (fr : Framing) (cfg : ServerCfg σ) (l : DecodeLevel)
    (hs : List (Nat × σ)) (script : List SessStep) (pre : List Frame) (e : FrameErr)
    (post : List Event)
    (h : readerRun fr (cutScript script).1 = pre.map Event.frame ++ Event.err e :: post) :
    (runSession fr cfg l hs script).ended = .badFrame e
    ∧ (runSession fr cfg l hs script).calls = (runFrames cfg hs pre).2.1
    ∧ (runSession fr cfg l hs script).states = (runFrames cfg hs pre).2.2
    ∧ (runSession fr cfg l hs script).tx
        = ((runFrames cfg hs pre).1.map fun p => frameOut fr p.1 p.2).flatten := by
  rw [runSession_runFrames, C01.sessionFrames, h, framesBeforeError_err, endOf_err]
  exact ⟨rfl, rfl, rfl, rfl⟩

/-- a session ends with `badFrame e` iff `e` is the first framing error of its reader; the errors
    a reader can report are the header errors of `Rodbus.run_errors` (MBAP) and the function-code /
    length / CRC errors of `C06.run_errors` (RTU) -/
theorem session_ends_badFrame_iff {σ : Type} (fr : Framing) (cfg : ServerCfg σ) (l : DecodeLevel)
    (hs : List (Nat × σ)) (script : List SessStep) (e : FrameErr)
    (hk : (cutScript script).2 ≠ .badFrame e) :
    (runSession fr cfg l hs script).ended = .badFrame e
      ↔ firstError (readerRun fr (cutScript script).1) = some e := by
  rw [runSession_runFrames]
  unfold endOf
  cases hfe : firstError (readerRun fr (cutScript script).1) with
  | none => simp; exact hk
  | some e' => simp

/-- the end kind read off a script is never `badFrame`: only the reader produces it -/
theorem cutScript_not_badFrame (script : List SessStep) (e : FrameErr) :
    (cutScript script).2 ≠ .badFrame e :=
  cutScript_snd_ne_badFrame script e

/-- a session whose frames before the first framing error are all
    without effect in the sense of `invalid_no_effect` (not a request / unconfigured unit /
    denied) makes no handler call and leaves every handler state unchanged -/
theorem session_invalid_no_effect {σ : Type} (fr : Framing) (cfg : ServerCfg σ) (l : DecodeLevel)
    (hs : List (Nat × σ)) (script : List SessStep)
    (h : ∀ f ∈ C01.sessionFrames fr script,
      requestOf f = none
        ∨ (isBroadcast cfg f = false ∧ f.dest ∉ hs.map Prod.fst)
        ∨ (∃ req, requestOf f = some req ∧ cfg.allows f.dest req = false)) :
    (∀ c ∈ (runSession fr cfg l hs script).calls, c.isAuth = true)
      ∧ (runSession fr cfg l hs script).states = hs := by
  rw [runSession_runFrames]
  have hf : ∀ f ∈ C01.sessionFrames fr script,
      (∀ c ∈ (handleFrame cfg hs f).calls, c.isAuth = true) ∧ (handleFrame cfg hs f).states = hs :=
    fun f hm => invalid_no_effect cfg hs f <| (h f hm).imp_right <| .imp_left
      fun ⟨h1, h2⟩ => ⟨h1, lookupUnit_eq_none h2⟩
  rw [runFrames_of_stable cfg hs _ fun f hm => (hf f hm).2]
  refine ⟨fun c hc => ?_, rfl⟩
  obtain ⟨f, hm, hc⟩ := List.mem_flatMap.1 hc
  exact (hf f hm).1 c hc

/-- C06 composed with the session: an RTU request corrupted by a 1-bit, 2-bit or ≤ 16-bit burst
    error outside the function-code and byte-count bytes (`C06.corruption_rejected_data_bytes`),
    arriving first on a session in any segmentation and followed by anything: no handler call, no
    reply, no state change; the session ends with the CRC error -/
theorem corrupted_request_no_effect {σ : Type} (cfg : ServerCfg σ) (l : DecodeLevel)
    (hs : List (Nat × σ)) (chunks : List Bytes) (dest : Nat) (pdu e rest : Bytes)
    (hd : dest < 256) (hp : Rtu.WellFormedPdu .request pdu) (he : Bytes.WF e)
    (hl : e.length = (Rtu.format dest pdu).length)
    (hpat : Crc.SingleBit e ∨ Crc.Burst16 e ∨ Crc.DoubleBit e)
    (hz : ∀ i ∈ C06.delimitingBytes .request pdu, e.getD i 0 = 0)
    (hc : chunks.flatten = Crc.xorBytes (Rtu.format dest pdu) e ++ rest) :
    ∃ r x, r ≠ x ∧ runSession .rtu cfg l hs (chunks.map SessStep.data ++ [.eof])
      = ⟨[], [], hs, .badFrame (.crcValidationFailure r x)⟩ := by
  obtain ⟨r, x, hrx, h⟩ :=
    C06.corruption_rejected_data_bytes .request dest pdu e rest hd hp he hl hpat hz
  refine ⟨r, x, hrx, ?_⟩
  rw [C01Stream.stream_replies]
  simp only [C01Stream.specEvents]
  rw [hc, h]
  rfl

open Demo

/-- TCP: a valid write, then a header with protocol id 1, then another valid write in the same
    segment: only the first write reaches the handler, the session ends with the header error -/
example :
    let s := runSession .tcp tcp {} units
      [.data ([0, 1, 0, 0, 0, 6, 1] ++ writeCoil ++ [0, 2, 0, 1, 0, 6, 1] ++ writeCoil
              ++ [0, 3, 0, 0, 0, 6, 1] ++ writeCoil), .eof]
    s.calls = [.writeSingleCoil 1 1 true] ∧ s.ended = .badFrame (.unknownProtocolId 1)
      ∧ s.tx = [0, 1, 0, 0, 0, 6, 1] ++ writeCoil := by
  decide +kernel

/-- RTU: a valid write to unit 1, then the same frame with a wrong CRC, then a valid one: one
    call, one reply, the session ends with the CRC error -/
example :
    let s := runSession .rtu rtu {} units
      [.data (Rtu.format 1 writeCoil), .data (1 :: writeCoil ++ [0, 0]),
       .data (Rtu.format 1 writeCoil), .eof]
    s.calls = [.writeSingleCoil 1 1 true]
      ∧ s.ended = .badFrame (.crcValidationFailure 0 (Crc.crc (1 :: writeCoil)))
      ∧ s.tx = Rtu.format 1 writeCoil := by
  decide +kernel

/-- the hypothesis of `session_framing_error` is satisfiable (the reader of the first example) -/
example : readerRun .tcp (cutScript
      [.data ([0, 1, 0, 0, 0, 6, 1] ++ writeCoil ++ [0, 2, 0, 1, 0, 6, 1] ++ writeCoil), .eof]).1
    = [(⟨some 1, 1, writeCoil⟩ : Frame)].map Event.frame
        ++ Event.err (.unknownProtocolId 1) :: [] := by
  decide +kernel

/-- `corrupted_request_no_effect` instantiated: a write whose unit id lost a bit (`01 → 41`),
    followed by the intact frame: nothing is written, nothing called, the session is over -/
example : ∃ r x, r ≠ x ∧ runSession .rtu rtu {} units
    ([Crc.xorBytes (Rtu.format 1 writeCoil) [0x40, 0, 0, 0, 0, 0, 0, 0],
      Rtu.format 1 writeCoil].map SessStep.data ++ [.eof])
      = ⟨[], [], units, .badFrame (.crcValidationFailure r x)⟩ :=
  corrupted_request_no_effect rtu {} units _ 1 writeCoil [0x40, 0, 0, 0, 0, 0, 0, 0]
    (Rtu.format 1 writeCoil) (by decide +kernel) (by decide +kernel) (by decide +kernel) (by decide +kernel)
    (Or.inl ⟨6, by decide +kernel⟩) (by decide +kernel) (by simp)

end Rodbus.C02
