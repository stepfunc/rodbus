import RodbusModel.Props.C08
import RodbusModel.Props.C05
import RodbusModel.Lemmas.ServerSession
/-
  C01, the session clauses that the per-frame theorems of Props/C01.lean leave open: every
  answerable frame is answered, one reply each and in order; and the bytes the session model
  writes (`frameOut`, Model/Session.lean) are the `frameReply` of `C01.reply_framing_tcp/_rtu`, so
  that the echo of transaction id and unit id is a statement about `(runSession …).tx`.
  No hypothesis on the bytes anywhere.
-/
namespace Rodbus.C01
open Rodbus Rodbus.Spec.Server

/-- the frame denotes a request that the authorization handler (if any) denies -/
def denied {σ : Type} (cfg : ServerCfg σ) (f : Frame) : Bool :=
  match requestOf f with
  | some req => !cfg.allows f.dest req
  | none => false

/-- the frame is answerable by a server whose configured unit ids are `units`: its PDU is not
    empty, it is not a broadcast, and its destination is a configured unit — or, with an
    authorization handler, it is a well-formed request that the handler denies (the denial,
    exception 01, is sent before the unit map is consulted) -/
def answerable {σ : Type} (cfg : ServerCfg σ) (units : List Nat) (f : Frame) : Bool :=
  !f.pdu.isEmpty && !isBroadcast cfg f && (units.contains f.dest || denied cfg f)

theorem denied_no_auth {σ : Type} (cfg : ServerCfg σ) (f : Frame) (ha : cfg.auth = none) :
    denied cfg f = false := by
  unfold denied
  cases requestOf f with
  | none => rfl
  | some req => simp [ServerCfg.allows, ha]

/-- a frame is answered iff it is answerable — for every PDU, whatever its bytes -/
theorem reply_iff_answerable {σ : Type} (cfg : ServerCfg σ) (hs : List (Nat × σ)) (f : Frame) :
    (handleFrame cfg hs f).reply.isSome = answerable cfg (hs.map Prod.fst) f := by
  unfold answerable denied
  rw [contains_keys_eq]
  have h := handleFrame_handled cfg hs f
  generalize handleFrame cfg hs f = o at h
  cases h with
  | rejected h =>
    simp only [h, Bool.or_false]
    cases !f.pdu.isEmpty && !isBroadcast cfg f && (lookupUnit hs f.dest).isSome <;> rfl
  | denied req h hd =>
    obtain ⟨body, hp⟩ := requestOf_fc h
    cases isBroadcast cfg f <;> simp [h, hd, hp]
  | ignored req h ha hi => rcases hi with ⟨hb, _⟩ | ⟨hb, hl⟩ <;> simp [*]
  | broadcast req h ha hb => simp [h, ha, hb]
  | served req s h ha hb hl => obtain ⟨body, hp⟩ := requestOf_fc h; simp [h, ha, hb, hl, hp]

/-- a non-empty frame that is not a broadcast and is addressed to a configured unit is always
    answered (with a response or an exception) -/
theorem configured_always_answered {σ : Type} (cfg : ServerCfg σ) (hs : List (Nat × σ)) (f : Frame)
    (s : σ) (hp : f.pdu ≠ []) (hb : isBroadcast cfg f = false)
    (hl : lookupUnit hs f.dest = some s) : (handleFrame cfg hs f).reply.isSome = true := by
  rw [reply_iff_answerable]
  unfold answerable
  rw [contains_keys_eq, hl, hb]
  cases h : f.pdu with
  | nil => exact absurd h hp
  | cons b body => simp

/-- a denied request is answered (exception 01) even when its unit is not configured -/
theorem denied_always_answered {σ : Type} (cfg : ServerCfg σ) (hs : List (Nat × σ)) (f : Frame)
    (req : Request) (hreq : requestOf f = some req) (hb : isBroadcast cfg f = false)
    (hd : cfg.allows f.dest req = false) :
    (handleFrame cfg hs f).reply = some [req.fc.toByte + 128, 1] := by
  rw [C08.deny_no_effect cfg hs f req hreq hd, hb]; rfl

/-- answerability depends on the unit map only through the set of configured unit ids, which a
    session never changes (`C01.session_units_constant`) -/
theorem answerable_keys {σ : Type} (cfg : ServerCfg σ) (hs hs' : List (Nat × σ))
    (h : hs'.map Prod.fst = hs.map Prod.fst) (f : Frame) :
    answerable cfg (hs'.map Prod.fst) f = answerable cfg (hs.map Prod.fst) f := by rw [h]

/-- the frames a session answers are exactly its answerable frames, one reply each, in the order
    received -/
theorem session_replies_exact {σ : Type} (cfg : ServerCfg σ) (hs : List (Nat × σ))
    (fs : List Frame) :
    (runFrames cfg hs fs).1.map Prod.fst = fs.filter (answerable cfg (hs.map Prod.fst)) := by
  induction fs generalizing hs with
  | nil => rfl
  | cons f fs ih =>
    have hk := handleFrame_keys cfg hs f
    have hr := reply_iff_answerable cfg hs f
    simp only [runFrames, List.map_append, ih, hk, List.filter_cons]
    cases hrep : (handleFrame cfg hs f).reply with
    | none => rw [hrep] at hr; simp [← hr]
    | some p => rw [hrep] at hr; simp [← hr]

/-- the answered frames are a subsequence of the received frames: at most one reply per frame,
    never reordered, never invented -/
theorem session_replies_in_order {σ : Type} (cfg : ServerCfg σ) (hs : List (Nat × σ))
    (fs : List Frame) : ((runFrames cfg hs fs).1.map Prod.fst).Sublist fs := by
  rw [session_replies_exact]; exact List.filter_sublist

theorem session_reply_count {σ : Type} (cfg : ServerCfg σ) (hs : List (Nat × σ))
    (fs : List Frame) :
    (runFrames cfg hs fs).1.length = fs.countP (answerable cfg (hs.map Prod.fst)) := by
  have := congrArg List.length (session_replies_exact cfg hs fs)
  rw [List.length_map] at this
  rw [this, List.countP_eq_length_filter]

/-- each reply of a session is the reply `handleFrame` gives to its frame in the state the
    earlier frames left behind -/
theorem session_reply_is_frame_reply {σ : Type} (cfg : ServerCfg σ) (hs : List (Nat × σ))
    (fs : List Frame) (f : Frame) (p : Bytes) (h : (f, p) ∈ (runFrames cfg hs fs).1) :
    ∃ pre post, fs = pre ++ f :: post
      ∧ (handleFrame cfg (runFrames cfg hs pre).2.2 f).reply = some p := by
  induction fs generalizing hs with
  | nil => simp [runFrames] at h
  | cons g gs ih =>
    simp only [runFrames, List.mem_append] at h
    rcases h with h | h
    · cases hrep : (handleFrame cfg hs g).reply with
      | none => rw [hrep] at h; simp at h
      | some q =>
        rw [hrep] at h
        simp only [List.mem_singleton, Prod.mk.injEq] at h
        obtain ⟨rfl, rfl⟩ := h
        exact ⟨[], gs, rfl, hrep⟩
    · obtain ⟨pre, post, hfs, hp⟩ := ih _ h
      refine ⟨g :: pre, post, by rw [hfs]; rfl, ?_⟩
      simpa [runFrames] using hp

/-- the framing function of the session model IS `frameReply` -/
theorem frameOut_eq_frameReply (f : Frame) (pdu : Bytes) :
    frameOut .tcp f pdu = frameReply false f pdu ∧ frameOut .rtu f pdu = frameReply true f pdu :=
  ⟨rfl, rfl⟩

/-- every byte a session writes, for every script: the `frameReply` of each reply of `runFrames`
    over the session's frames, concatenated in order -/
theorem session_writes_framed_replies {σ : Type} (fr : Framing) (cfg : ServerCfg σ)
    (l : DecodeLevel) (hs : List (Nat × σ)) (script : List SessStep) :
    (runSession fr cfg l hs script).tx =
      ((runFrames cfg hs (sessionFrames fr script)).1.map
        fun p => frameReply (decide (fr = .rtu)) p.1 p.2).flatten := by
  rw [runSession_runFrames]
  cases fr <;> rfl

/-- TCP: each reply is written with the transaction id and the unit id of ITS request, protocol
    id 0 and length = PDU + 1 -/
theorem session_tx_tcp {σ : Type} (cfg : ServerCfg σ) (l : DecodeLevel) (hs : List (Nat × σ))
    (script : List SessStep) :
    (runSession .tcp cfg l hs script).tx =
      ((runFrames cfg hs (sessionFrames .tcp script)).1.map fun p =>
        u16be (p.1.tx.getD 0) ++ [0, 0] ++ u16be (p.2.length + 1) ++ [p.1.dest] ++ p.2).flatten := by
  rw [session_writes_framed_replies]
  simp [frameReply, Mbap.format]

/-- RTU: each reply is written with the address of ITS request and the CRC of address and PDU -/
theorem session_tx_rtu {σ : Type} (cfg : ServerCfg σ) (l : DecodeLevel) (hs : List (Nat × σ))
    (script : List SessStep) :
    (runSession .rtu cfg l hs script).tx =
      ((runFrames cfg hs (sessionFrames .rtu script)).1.map fun p =>
        [p.1.dest] ++ p.2 ++ u16le (Crc.crc ([p.1.dest] ++ p.2))).flatten := by
  rw [session_writes_framed_replies]
  simp [frameReply, Rtu.format]

/-- every frame the MBAP reader delivers carries a transaction id (so `getD 0` above never
    takes its default) -/
theorem tcp_frames_have_tx (chunks : List Bytes) (f : Frame)
    (h : Event.frame f ∈ readerRun .tcp chunks) : ∃ t, f.tx = some t :=
  Mbap.specFrames_have_tx chunks.flatten f (by rw [← Rodbus.chunking_independent]; exact h)

theorem session_frames_have_tx (script : List SessStep) (f : Frame)
    (h : f ∈ sessionFrames .tcp script) : ∃ t, f.tx = some t := by
  obtain ⟨pre, post, hev⟩ := (mem_framesBeforeError_iff _ f).1 h
  exact tcp_frames_have_tx (cutScript script).1 f (by rw [hev]; simp)

open Demo

/-- three TCP requests in one segment, then the peer closes: unit 1 (configured) is answered
    with its own transaction id 7, unit 9 (not configured) is not, the invalid request for unit 2
    is answered with exception 03 and transaction id 9 -/
example :
    (runSession .tcp tcp {} units
      [.data ([0, 7, 0, 0, 0, 6, 1] ++ readCoils8 ++ [0, 8, 0, 0, 0, 6, 9] ++ readCoils8
              ++ [0, 9, 0, 0, 0, 6, 2] ++ readZero), .eof]).tx
      = [0, 7, 0, 0, 0, 4, 1, 1, 1, 0x4D] ++ [0, 9, 0, 0, 0, 3, 2, 0x81, 3] := by
  decide +kernel

example : answerable tcp (units.map Prod.fst) ⟨some 7, 1, readCoils8⟩ = true
    ∧ answerable tcp (units.map Prod.fst) ⟨some 8, 9, readCoils8⟩ = false
    ∧ answerable tcp (units.map Prod.fst) ⟨some 9, 2, readZero⟩ = true
    ∧ answerable rtu (units.map Prod.fst) ⟨none, 0, writeCoil⟩ = false
    ∧ answerable tlsReadOnly (units.map Prod.fst) ⟨some 1, 9, writeCoil⟩ = true
    ∧ answerable tcp (units.map Prod.fst) ⟨some 1, 1, []⟩ = false := by decide +kernel

/-- the hypotheses of `configured_always_answered` are satisfiable, also for a garbage PDU -/
example : (⟨some 7, 1, [0x2B, 14, 1, 0]⟩ : Frame).pdu ≠ []
    ∧ isBroadcast tcp ⟨some 7, 1, [0x2B, 14, 1, 0]⟩ = false ∧ lookupUnit units 1 = some db1 := by
  decide +kernel

/-- a denied write to an unconfigured unit is answered with exception 01 -/
example : (handleFrame tlsReadOnly units ⟨some 1, 9, writeCoil⟩).reply = some [0x85, 1] := by
  decide +kernel

end Rodbus.C01
