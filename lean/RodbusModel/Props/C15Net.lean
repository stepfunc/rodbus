import RodbusModel.Lemmas.ServerNet
import RodbusModel.Props.C15
/-
  C15 / C16, connection level: theorems over the accept-loop model `ServerNet`
  (filter at accept, eviction, isolation between sessions, shutdown, bound on open connections).
-/
namespace Rodbus.C15Net
open Rodbus.ServerNet Rodbus.Filter

/-- the state in which `ServerTask::run` starts -/
def init (m : Nat) (f : AddressFilter) (tls : Bool) : Net :=
  { tracker := Tracker.new m, filter := f, tls := tls }

/-- C16: while the server is listening, a connection is given a session iff the peer address matches
    the filter — in every variant (the model is the same for TCP, TLS and TLS with
    authorization: the filter is consulted before the connection handler) -/
theorem accept_iff_matches (n : Net) (k : Nat) (src : Addr) (h : n.listening = true) :
    (ServerNet.step n (.connect k src)).2 = [.conn k "open"] ↔ n.filter.matches src = true := by
  cases hm : n.filter.matches src with
  | true => rw [step_connect_accept n k src h hm]; simp
  | false => rw [step_connect_reject n k src h hm]; simp

/-- … and the accepted connection is open afterwards, with the fresh session id -/
theorem accepted_is_open (n : Net) (k : Nat) (src : Addr) (h : n.listening = true)
    (hm : n.filter.matches src = true) :
    lookup (ServerNet.step n (.connect k src)).1 k = some (some n.tracker.next) := by
  rw [step_connect_accept n k src h hm]
  exact lookup_acceptConn_self n k

/-- a rejected peer leaves no trace: no session id is consumed, nobody is evicted, every other
    connection keeps its table entry; the rejected connection itself is closed -/
theorem rejected_no_effect (n : Net) (k : Nat) (src : Addr) (h : n.listening = true)
    (hm : n.filter.matches src = false) :
    (ServerNet.step n (.connect k src)).1.tracker = n.tracker ∧
    (ServerNet.step n (.connect k src)).2 = [.conn k "closed"] ∧
    isOpen (ServerNet.step n (.connect k src)).1 k = false ∧
    ∀ a, a ≠ k → lookup (ServerNet.step n (.connect k src)).1 a = lookup n a := by
  rw [step_connect_reject n k src h hm]
  exact ⟨rfl, rfl, by rw [isOpen, lookup_setConn_self], fun a ha => lookup_setConn_ne n a k none ha⟩

/-- whatever happens on connection `b` — a request, garbage, the peer closing, a probe — the
    table entry (hence the open/closed status) of every other connection `a` is unchanged -/
theorem isolation_lookup (n : Net) (a b : Nat) (h : a ≠ b) :
    lookup (ServerNet.step n (.request b)).1 a = lookup n a ∧
    lookup (ServerNet.step n (.garbage b)).1 a = lookup n a ∧
    lookup (ServerNet.step n (.close b)).1 a = lookup n a ∧
    lookup (ServerNet.step n (.probe b)).1 a = lookup n a := by
  have hb : some b ≠ some a := fun e => h (Option.some.inj e).symm
  exact ⟨(lookup_step_ne n (.request b) a nofun).trans Option.map_id',
    (lookup_step_ne n (.garbage b) a hb).trans Option.map_id',
    (lookup_step_ne n (.close b) a hb).trans Option.map_id',
    (lookup_step_ne n (.probe b) a nofun).trans Option.map_id'⟩

theorem isolation (n : Net) (a b : Nat) (h : a ≠ b) :
    isOpen (ServerNet.step n (.request b)).1 a = isOpen n a ∧
    isOpen (ServerNet.step n (.garbage b)).1 a = isOpen n a ∧
    isOpen (ServerNet.step n (.close b)).1 a = isOpen n a ∧
    isOpen (ServerNet.step n (.probe b)).1 a = isOpen n a := by
  obtain ⟨h1, h2, h3, h4⟩ := isolation_lookup n a b h
  exact ⟨isOpen_congr h1, isOpen_congr h2, isOpen_congr h3, isOpen_congr h4⟩

/-- a request on an open plain-TCP connection is answered regardless of what the other
    connections did before (its answer depends only on its own status) -/
theorem request_answer (n : Net) (k : Nat) (h : isOpen n k = true) (ht : n.tls = false) :
    (ServerNet.step n (.request k)).2 = [.req k "ok.982"] := by
  rw [step_eq, outputs, h, ht]; rfl

def AllClosed (n : Net) : Prop := ∀ k, isOpen n k = false

/-- a shutdown command (through a live handle) or dropping the handle stops listening and closes
    every session -/
theorem shutdown_closes_all (n : Net) :
    (n.handle = true →
      AllClosed (ServerNet.step n .shutdown).1 ∧ (ServerNet.step n .shutdown).1.listening = false) ∧
    (AllClosed (ServerNet.step n .dropHandle).1 ∧
      (ServerNet.step n .dropHandle).1.listening = false) := by
  have hc (hd : Bool) : AllClosed (closeConns n hd) := fun k => by
    rw [isOpen, lookup_closeConns]; cases lookup n k <;> rfl
  refine ⟨fun hh => ?_, hc false, rfl⟩
  rw [step_fst, effect, if_pos hh]
  exact ⟨hc n.handle, rfl⟩

/-- once the server is not listening every new connection is refused -/
theorem refused_after_shutdown (n : Net) (k : Nat) (src : Addr) (h : n.listening = false) :
    ServerNet.step n (.connect k src) = (n, [.conn k "refused"]) :=
  step_connect_refused n k src h

theorem listening_monotone_run (steps : List Step) (n : Net) (h : n.listening = false) :
    (ServerNet.run n steps).1.listening = false :=
  run_preserves (fun n s => (step_frame n s).2.2.2) steps n h

/-- two table entries are compatible: different labels and, if both are open, different ids -/
def Compat (c d : Nat × Option Nat) : Prop :=
  c.1 ≠ d.1 ∧ ∀ i, c.2 = some i → d.2 ≠ some i

theorem Compat.symm {c d : Nat × Option Nat} (h : Compat c d) : Compat d c :=
  ⟨fun e => h.1 e.symm, fun i hd hc => h.2 i hc hd⟩

/-- `Compat` is symmetric, so it holds of two entries with different labels whatever their order in
    the list -/
theorem pairwise_mem {l : List (Nat × Option Nat)} (h : l.Pairwise Compat)
    {x y : Nat × Option Nat} (hx : x ∈ l) (hy : y ∈ l) (hne : x.1 ≠ y.1) : Compat x y := by
  have h1 : l.Pairwise fun a b => a.1 ≠ b.1 → Compat a b := h.imp fun {a b} h (_ : a.1 ≠ b.1) => h
  have h2 : l.Pairwise (flip fun a b => a.1 ≠ b.1 → Compat a b) :=
    h.imp fun {a b} h (_ : b.1 ≠ a.1) => h.symm
  exact List.Pairwise.forall_of_forall_of_flip (fun _ _ h => absurd rfl h) h1 h2 hx hy hne

/-- the well-formedness invariant of the accept loop: the tracker invariant, distinct labels
    and distinct ids in the connection table, every open connection's id is tracked -/
structure WF (n : Net) : Prop where
  inv : C15.Inv n.tracker
  compat : n.conns.Pairwise Compat
  tracked : ∀ c ∈ n.conns, ∀ id, c.2 = some id → id ∈ n.tracker.ids

/-- the invariant in terms of `lookup`: what `sweep` establishes -/
def OpenTracked (n : Net) : Prop := ∀ k id, lookup n k = some (some id) → id ∈ n.tracker.ids

theorem WF.openTracked {n : Net} (h : WF n) : OpenTracked n :=
  fun _ id hl => h.tracked _ (mem_of_lookup hl) id rfl

theorem WF.distinct {n : Net} (h : WF n) {a b i j : Nat} (hab : a ≠ b)
    (ha : lookup n a = some (some i)) (hb : lookup n b = some (some j)) : i ≠ j := by
  intro e
  exact (pairwise_mem h.compat (mem_of_lookup ha) (mem_of_lookup hb) hab).2 i rfl (by rw [e])

theorem wf_init (m : Nat) (f : AddressFilter) (tls : Bool) : WF (init m f tls) :=
  ⟨C15.new_inv m, List.Pairwise.nil, fun _ hc => nomatch hc⟩

theorem compat_setConn {l : List (Nat × Option Nat)} (h : l.Pairwise Compat) (k : Nat)
    (v : Option Nat) (hv : ∀ c ∈ l, c.1 ≠ k → ∀ i, c.2 = some i → v ≠ some i) :
    (l.filter (·.1 ≠ k) ++ [(k, v)]).Pairwise Compat := by
  rw [List.pairwise_append]
  refine ⟨h.filter _, List.pairwise_singleton _ _, ?_⟩
  intro c hc d hd
  rw [List.mem_singleton] at hd
  subst hd
  obtain ⟨hc1, hc2⟩ := List.mem_filter.mp hc
  have hk : c.1 ≠ k := by simpa using hc2
  exact ⟨hk, hv c hc1 hk⟩

/-- closing label `k` under a tracker that still holds the ids of all other labels -/
theorem wf_setConn_none {n : Net} (h : WF n) (k : Nat) {t : Tracker.Tracker} (ht : C15.Inv t)
    (hsub : ∀ c ∈ n.conns, c.1 ≠ k → ∀ id, c.2 = some id → id ∈ t.ids) :
    WF (setConn { n with tracker := t } k none) := by
  refine ⟨ht, compat_setConn h.compat k none (fun _ _ _ _ _ e => nomatch e), fun c hc id hid => ?_⟩
  rcases List.mem_append.mp hc with hc | hc
  · obtain ⟨hc1, hc2⟩ := List.mem_filter.mp hc
    exact hsub c hc1 (by simpa using hc2) id hid
  · cases List.mem_singleton.mp hc; cases hid

theorem wf_endSession {n : Net} (h : WF n) (k : Nat) : WF (endSession n k) := by
  rcases endSession_eq n k with ⟨_, e⟩ | ⟨id, hl, e⟩ <;> rw [e]
  · exact h
  · refine wf_setConn_none h k (C15.remove_inv _ _ h.inv) fun c hc hk i hi => ?_
    -- the id of another label is not the one removed: ids are distinct
    have hcomp := pairwise_mem h.compat hc (mem_of_lookup hl) hk
    exact List.mem_filter.mpr ⟨h.tracked c hc i hi, by simpa using fun e => hcomp.2 i hi (by rw [e])⟩

theorem wf_closeAll {n : Net} (h : WF n) (hd : Bool) : WF (closeConns n hd) := by
  refine ⟨⟨h.inv.1, Nat.zero_le _, List.Pairwise.nil, fun _ hi => nomatch hi⟩,
    List.Pairwise.map _ (fun a b hab => ?_) h.compat, fun c hc id hid => ?_⟩
  · exact ⟨hab.1, fun _ e => nomatch e⟩
  · obtain ⟨x, _, rfl⟩ := List.mem_map.mp hc
    cases hid

theorem wf_accept {n : Net} (h : WF n) (k : Nat) : WF (acceptConn n k) := by
  refine ⟨C15.add_inv _ h.inv, ?_, ?_⟩
  · rw [acceptConn, sweep_conns]
    refine List.Pairwise.map _ (fun a b hab => ?_) (compat_setConn h.compat k (some n.tracker.next) ?_)
    · exact ⟨hab.1, fun i ha hb => hab.2 i (sweepVal_eq_some ha).1 (sweepVal_eq_some hb).1⟩
    · -- the fresh id is above every tracked one
      intro c hc _ i hi e
      have := h.inv.2.2.2 i (h.tracked c hc i hi)
      cases e
      exact Nat.lt_irrefl _ this
  · intro c hc id hid
    rw [acceptConn, sweep_conns] at hc
    obtain ⟨x, _, rfl⟩ := List.mem_map.mp hc
    exact (sweepVal_eq_some hid).2

theorem wf_apply (n : Net) (e : Effect) (h : WF n) : WF (e.apply n) := by
  cases e with
  | none => exact h
  | accept k => exact wf_accept h k
  | reject k => exact wf_setConn_none h k h.inv fun c hc _ => h.tracked c hc
  | endS k => exact wf_endSession h k
  | close k => exact ⟨(wf_endSession h k).inv, (wf_endSession h k).compat.filter _,
      fun c hc => (wf_endSession h k).tracked c (List.mem_filter.mp hc).1⟩
  | closeAll hd => exact wf_closeAll h hd

theorem wf_step (n : Net) (s : Step) (h : WF n) : WF (ServerNet.step n s).1 :=
  step_preserves wf_apply n s h

theorem wf_run (steps : List Step) (n : Net) (h : WF n) : WF (ServerNet.run n steps).1 :=
  run_preserves wf_step steps n h

theorem open_conns_tracked_step (n : Net) (s : Step) (h : WF n) :
    OpenTracked (ServerNet.step n s).1 := (wf_step n s h).openTracked

/-- in every reachable state, every open connection carries a session id that is still in the
    tracker (a connection whose id was evicted or removed is closed) -/
theorem open_conns_tracked (m : Nat) (f : AddressFilter) (tls : Bool) (steps : List Step) :
    OpenTracked (ServerNet.run (init m f tls) steps).1 :=
  (wf_run steps _ (wf_init m f tls)).openTracked

/-- in every reachable state two different open connections carry different session ids -/
theorem open_ids_distinct (m : Nat) (f : AddressFilter) (tls : Bool) (steps : List Step)
    (a b i j : Nat) (hab : a ≠ b)
    (ha : lookup (ServerNet.run (init m f tls) steps).1 a = some (some i))
    (hb : lookup (ServerNet.run (init m f tls) steps).1 b = some (some j)) : i ≠ j :=
  (wf_run steps _ (wf_init m f tls)).distinct hab ha hb

/-- in every reachable state of the accept loop at most `max(1, max_sessions)` session ids are
    live -/
theorem session_bound (m : Nat) (f : AddressFilter) (tls : Bool) (steps : List Step) :
    (ServerNet.run (init m f tls) steps).1.tracker.ids.length ≤ max 1 m := by
  have h := run_preserves (P := fun n => WF n ∧ n.tracker.max = max 1 m)
    (fun n s h => ⟨wf_step n s h.1, (step_frame n s).2.1.trans h.2⟩) steps _
    ⟨wf_init m f tls, C15.new_max m⟩
  exact h.2 ▸ h.1.inv.2.1

/-- in a well-formed state there are at most as many open connections as tracked ids: the ids of
    the open entries are pairwise different and all tracked -/
theorem WF.open_le_tracked {n : Net} (h : WF n) :
    (n.conns.filter (fun c => c.2.isSome)).length ≤ n.tracker.ids.length := by
  have hnd : (n.conns.filterMap (·.2)).Nodup :=
    h.compat.filterMap _ fun _ _ hab i hi j hj (e : i = j) => hab.2 i hi (e ▸ hj)
  have hsub : n.conns.filterMap (·.2) ⊆ n.tracker.ids := fun i hi =>
    let ⟨c, hcl, hci⟩ := List.mem_filterMap.mp hi
    h.tracked c hcl i hci
  rw [← List.countP_eq_length_filter, ← List.length_filterMap_eq_countP]
  exact hnd.length_le_of_subset hsub

/-- in every reachable state of the accept loop at most `max(1, max_sessions)` connections are
    open; no side condition on the connection labels is needed -/
theorem open_bound (m : Nat) (f : AddressFilter) (tls : Bool) (steps : List Step) :
    ((ServerNet.run (init m f tls) steps).1.conns.filter (fun c => c.2.isSome)).length
      ≤ max 1 m :=
  Nat.le_trans (wf_run steps _ (wf_init m f tls)).open_le_tracked (session_bound m f tls steps)

/-- what the tracker after `add` does to a table value whose id (if any) was tracked before: the
    oldest id goes if the tracker was full, nothing else changes -/
theorem sweepVal_add {t : Tracker.Tracker} (h : C15.Inv t) (v : Option Nat)
    (hv : ∀ id, v = some id → id ∈ t.ids) :
    sweepVal (Tracker.add t).2 v = if t.ids.length ≥ t.max ∧ v = t.ids.head? then none else v := by
  cases v with
  | none => simp [sweepVal]
  | some id =>
    have hid := hv id rfl
    have hne : id ≠ t.next := Nat.ne_of_lt (h.2.2.2 id hid)
    rw [sweepVal_some, C15.add_ids]
    by_cases hfull : t.ids.length ≥ t.max
    · simp only [hfull, if_true, true_and]
      cases hids : t.ids with
      | nil => rw [hids] at hid; cases hid
      | cons o r =>
        rw [hids] at hid
        have hor : o ∉ r := fun hm => Nat.lt_irrefl _ (C15.head_lt h hids o hm)
        by_cases hio : id = o
        · subst hio; simp [hor, hne]
        · simp [(List.mem_cons.mp hid).resolve_left hio, hio]
    · simp [hfull, hid]

/-- the table entry of every other connection after an accepted `connect` is swept against the
    new tracker, which, in a well-formed state, evicts at most the oldest id -/
theorem lookup_accept_ne_wf (n : Net) (hw : WF n) (k : Nat) (src : Addr) (hl : n.listening = true)
    (hm : n.filter.matches src = true) (a : Nat) (ha : a ≠ k) :
    lookup (ServerNet.step n (.connect k src)).1 a = (lookup n a).map fun v =>
      if n.tracker.ids.length ≥ n.tracker.max ∧ v = n.tracker.ids.head? then none else v := by
  rw [step_connect_accept n k src hl hm, lookup_acceptConn_ne n a k ha]
  cases hla : lookup n a with
  | none => rfl
  | some v =>
    exact congrArg some (sweepVal_add hw.inv v fun id e => hw.openTracked a id (by rw [hla, e]))

/-- when a `connect` is accepted while the tracker is full, the tracker's smallest id `oldest`
    (= the earliest accepted live session) is evicted: the table entry of every other connection
    is unchanged, except that the connection carrying `oldest` (there is at most one) becomes
    closed. The new connection itself is open (`accepted_is_open`). -/
theorem evicted_is_oldest (n : Net) (hw : WF n) (k : Nat) (src : Addr)
    (hl : n.listening = true) (hm : n.filter.matches src = true)
    (hfull : n.tracker.ids.length ≥ n.tracker.max) :
    ∃ oldest, n.tracker.ids.head? = some oldest ∧ (∀ i ∈ n.tracker.ids, oldest ≤ i) ∧
      (∀ a b, lookup n a = some (some oldest) → lookup n b = some (some oldest) → a = b) ∧
      ∀ a, a ≠ k →
        lookup (ServerNet.step n (.connect k src)).1 a
          = (lookup n a).map (fun v => if v = some oldest then none else v) := by
  cases hids : n.tracker.ids with
  | nil => rw [hids] at hfull; exact absurd (Nat.le_trans hw.inv.1 hfull) (by decide)
  | cons o r =>
    refine ⟨o, rfl, fun i hi => ?_, fun a b ha hb => ?_, fun a ha => ?_⟩
    · rcases List.mem_cons.mp hi with rfl | hi
      · exact Nat.le_refl _
      · exact Nat.le_of_lt (C15.head_lt hw.inv hids i hi)
    · exact Decidable.byContradiction fun hab => hw.distinct hab ha hb rfl
    · rw [lookup_accept_ne_wf n hw k src hl hm a ha, hids]
      simp only [hids ▸ hfull, true_and, List.head?_cons]

/-- the same in terms of `isOpen`: after the eviction exactly the connections that were open
    with an id other than `oldest` are open (besides the new one) -/
theorem evicted_is_oldest_isOpen (n : Net) (hw : WF n) (k : Nat) (src : Addr)
    (hl : n.listening = true) (hm : n.filter.matches src = true)
    (hfull : n.tracker.ids.length ≥ n.tracker.max) :
    ∃ oldest, n.tracker.ids.head? = some oldest ∧
      ∀ a, a ≠ k →
        (isOpen (ServerNet.step n (.connect k src)).1 a = true
          ↔ ∃ id, lookup n a = some (some id) ∧ id ≠ oldest) := by
  obtain ⟨o, ho, _, _, h⟩ := evicted_is_oldest n hw k src hl hm hfull
  refine ⟨o, ho, fun a ha => ?_⟩
  rw [isOpen_iff, h a ha]
  cases lookup n a with
  | none => simp
  | some v =>
    cases v with
    | none => simp
    | some id => by_cases e : id = o <;> simp [e]

theorem accept_no_eviction (n : Net) (hw : WF n) (k : Nat) (src : Addr)
    (hl : n.listening = true) (hm : n.filter.matches src = true)
    (hroom : n.tracker.ids.length < n.tracker.max) :
    ∀ a, a ≠ k → lookup (ServerNet.step n (.connect k src)).1 a = lookup n a := by
  intro a ha
  rw [lookup_accept_ne_wf n hw k src hl hm a ha]
  simp only [Nat.not_le.mpr hroom, false_and, if_false]
  exact Option.map_id'

/-! ### with fresh connection labels every tracked id belongs to an open connection

  The model overwrites the table entry of label `k` on `connect k …`. If `k` is still open at
  that moment its old id stays in the tracker without an owner (in the harness, re-using a label
  drops the old socket instead). The loopback scripts always use fresh labels; under that side
  condition the tracker and the table agree exactly. -/

/-- every tracked id is held by an open connection -/
def Owned (n : Net) : Prop := ∀ id ∈ n.tracker.ids, ∃ k, lookup n k = some (some id)

def connectLabels : List Step → List Nat
  | [] => []
  | .connect k _ :: rest => k :: connectLabels rest
  | _ :: rest => connectLabels rest

/-- every tracked id keeps an owner, provided an accepted or rejected `connect` does not re-use
    an open label -/
theorem owned_apply (n : Net) (e : Effect) (h : Owned n)
    (hf : ∀ k, e = .accept k ∨ e = .reject k → isOpen n k = false) : Owned (e.apply n) := by
  -- an id that keeps its place in the tracker keeps its owner, unless the owner is `e`'s label
  have keep (i : Nat) (hi : i ∈ n.tracker.ids) (k : Nat) (hk : e.label = some k)
      (hne : ∀ a, lookup n a = some (some i) → a ≠ k)
      (hon : e.onOthers n (some i) = some i) : ∃ a, lookup (e.apply n) a = some (some i) := by
    obtain ⟨a, ha⟩ := h i hi
    have hak : e.label ≠ some a := fun e' => hne a ha (Option.some.inj (hk.symm.trans e')).symm
    exact ⟨a, by rw [lookup_apply_ne n e a hak, ha, Option.map_some, hon]⟩
  cases e with
  | none => exact h
  | accept k =>
    intro i hi
    have hi' : i ∈ (Tracker.add n.tracker).2.ids := hi
    rcases C15.mem_add_ids hi' with hold | rfl
    · exact keep i hold k rfl (fun a ha => ne_of_open_of_not_open ha (hf k (.inl rfl)))
        (by rw [Effect.onOthers, sweepVal_some, if_pos hi'])
    · exact ⟨k, lookup_acceptConn_self n k⟩
  | reject k =>
    exact fun i hi => keep i hi k rfl (fun a ha => ne_of_open_of_not_open ha (hf k (.inr rfl))) rfl
  | endS k | close k =>
    intro i hi
    obtain ⟨h1, h2⟩ := mem_endSession_ids (k := k) hi
    exact keep i h1 k rfl (fun a ha e => h2 (e ▸ ha)) rfl
  | closeAll hd => exact fun _ hi => nomatch hi

theorem owned_step (n : Net) (s : Step) (h : Owned n)
    (hf : ∀ k src, s = .connect k src → isOpen n k = false) : Owned (ServerNet.step n s).1 := by
  rw [step_fst]
  exact owned_apply n _ h fun k hk => by obtain ⟨src, hs⟩ := effect_connect hk; exact hf k src hs

/-- `connect` steps with pairwise distinct labels that are not yet in the table never re-use an
    open label -/
theorem owned_run (steps : List Step) (n : Net) (h : Owned n)
    (hnew : ∀ k ∈ connectLabels steps, lookup n k = none) (hnd : (connectLabels steps).Nodup) :
    Owned (ServerNet.run n steps).1 := by
  induction steps generalizing n with
  | nil => exact h
  | cons s rest ih =>
    have hown : Owned (ServerNet.step n s).1 :=
      owned_step n s h fun k src e => by rw [isOpen, hnew k (by rw [e]; exact List.mem_cons_self)]
    show Owned (ServerNet.run (ServerNet.step n s).1 rest).1
    cases s with
    | connect k src =>
      rw [connectLabels, List.nodup_cons] at hnd
      exact ih _ hown (fun a ha => lookup_none_step n _ a (hnew a (List.mem_cons_of_mem _ ha))
        fun _ e => hnd.1 (by cases e; exact ha)) hnd.2
    | _ => exact ih _ hown (fun a ha => lookup_none_step n _ a (hnew a ha) fun _ e => nomatch e) hnd

/-- if the `connect` steps use pairwise distinct labels, then in every reachable state every
    tracked session id belongs to an open connection (together with `open_conns_tracked` /
    `open_ids_distinct`: open connections and tracked ids correspond one to one) -/
theorem tracked_ids_open (m : Nat) (f : AddressFilter) (tls : Bool) (steps : List Step)
    (hnd : (connectLabels steps).Nodup) : Owned (ServerNet.run (init m f tls) steps).1 :=
  owned_run steps _ (fun _ hi => nomatch hi) (fun _ _ => rfl) hnd

/-- `evicted_is_oldest`, exact form: in a well-formed state in which every tracked id is owned
    (e.g. any state reached with distinct labels), an accepted `connect k` on a label that is
    not open, with a full tracker, closes exactly one connection `a` — the one holding the
    smallest tracked id — and leaves the table entry of every other connection unchanged -/
theorem evicted_is_oldest_exact (n : Net) (hw : WF n) (ho : Owned n) (k : Nat) (src : Addr)
    (hl : n.listening = true) (hm : n.filter.matches src = true) (hk : isOpen n k = false)
    (hfull : n.tracker.ids.length ≥ n.tracker.max) :
    ∃ oldest a, n.tracker.ids.head? = some oldest ∧ (∀ i ∈ n.tracker.ids, oldest ≤ i) ∧
      a ≠ k ∧ lookup n a = some (some oldest) ∧
      lookup (ServerNet.step n (.connect k src)).1 a = some none ∧
      ∀ b, b ≠ k → b ≠ a → lookup (ServerNet.step n (.connect k src)).1 b = lookup n b := by
  obtain ⟨o, h1, h2, h3, h4⟩ := evicted_is_oldest n hw k src hl hm hfull
  obtain ⟨a, ha⟩ := ho o (List.mem_of_mem_head? (by rw [h1]; rfl))
  have hak : a ≠ k := ne_of_open_of_not_open ha hk
  refine ⟨o, a, h1, h2, hak, ha, by rw [h4 a hak, ha]; simp, fun b hbk hba => ?_⟩
  rw [h4 b hbk]
  cases hlb : lookup n b with
  | none => rfl
  | some v =>
    have : v ≠ some o := fun e => hba (h3 b a (by rw [hlb, e]) ha)
    simp [this]

theorem runTR_eq_run (n : Net) (steps : List Step) : ServerNet.runTR n steps = ServerNet.run n steps := by
  simp [ServerNet.runTR, runAux_eq]

/-- `cnt` requests written back to back on an open plain-TCP connection are all answered (one
    reply per request: `cnt` replies), whatever the other connections did before; the step
    changes nothing in the server -/
theorem pipeline_answer (n : Net) (k cnt : Nat) (h : isOpen n k = true) (ht : n.tls = false) :
    ServerNet.step n (.pipeline k cnt) = (n, [.pipe k "ok" cnt]) := by
  rw [step_eq, outputs, h, ht]; rfl

/-- a pipelined step never changes the state: no other connection can be disturbed by it -/
theorem pipeline_state (n : Net) (k cnt : Nat) : (ServerNet.step n (.pipeline k cnt)).1 = n :=
  step_fst n _

theorem isolation_pipeline (n : Net) (a b cnt : Nat) :
    lookup (ServerNet.step n (.pipeline b cnt)).1 a = lookup n a ∧
    isOpen (ServerNet.step n (.pipeline b cnt)).1 a = isOpen n a := by
  rw [pipeline_state]; exact ⟨rfl, rfl⟩

theorem closeTracker_comm (t : Tracker.Tracker) (v w : Option (Option Nat)) :
    closeTracker (closeTracker t v) w = closeTracker (closeTracker t w) v := by
  match v, w with
  | some (some i), some (some j) => exact C15.remove_comm _ _ _
  | none, _ | some none, _ | some (some _), none | some (some _), some none => rfl

/-- a `connect l` on a fresh label below the session limit: ending the session it may have started
    restores the tracked ids, and no other label is touched -/
theorem connect_room (n : Net) (hw : WF n) (l : Nat) (src : Addr) (hl : lookup n l = none)
    (hroom : n.tracker.ids.length < n.tracker.max) :
    (closeTracker (ServerNet.step n (.connect l src)).1.tracker
      (lookup (ServerNet.step n (.connect l src)).1 l)).ids = n.tracker.ids ∧
    ∀ a, a ≠ l → lookup (ServerNet.step n (.connect l src)).1 a = lookup n a := by
  cases hlis : n.listening with
  | false => rw [step_connect_refused n l src hlis, hl]; exact ⟨rfl, fun _ _ => rfl⟩
  | true =>
    cases hm : n.filter.matches src with
    | false =>
      rw [step_connect_reject n l src hlis hm, lookup_setConn_self]
      exact ⟨rfl, fun a ha => lookup_setConn_ne n a l none ha⟩
    | true =>
      refine ⟨?_, accept_no_eviction n hw l src hlis hm hroom⟩
      rw [accepted_is_open n l src hlis hm, step_connect_accept n l src hlis hm]
      exact C15.remove_add_ids hw.inv hroom

/-- one churn peer (connect, then close at once) below the session limit: nothing is left of it
    — no table entry, no tracked id — and no other connection is touched -/
theorem churn_one (n : Net) (hw : WF n) (l : Nat) (src : Addr) (hl : lookup n l = none)
    (hroom : n.tracker.ids.length < n.tracker.max) :
    WF (ServerNet.run n [.connect l src, .close l]).1 ∧
    lookup (ServerNet.run n [.connect l src, .close l]).1 l = none ∧
    (ServerNet.run n [.connect l src, .close l]).1.tracker.ids = n.tracker.ids ∧
    (ServerNet.run n [.connect l src, .close l]).1.tracker.max = n.tracker.max ∧
    ∀ a, a ≠ l → lookup (ServerNet.run n [.connect l src, .close l]).1 a = lookup n a := by
  obtain ⟨hids, hoth⟩ := connect_room n hw l src hl hroom
  rw [run_pair_fst]
  exact ⟨wf_step _ _ (wf_step _ _ hw), by rw [lookup_close, if_pos rfl],
    by rw [tracker_close]; exact hids, (step_frame _ _).2.1.trans (step_frame _ _).2.1,
    fun a ha => by rw [lookup_close, if_neg ha]; exact hoth a ha⟩

theorem churnSteps_succ (l : Nat) (src : Addr) (cnt : Nat) :
    churnSteps l src (cnt + 1) = .connect l src :: .close l :: churnSteps l src cnt := by
  simp [churnSteps, List.replicate_succ]

/-- while the server is below its session limit, any number of peers that connect and leave
    (there is no bound on `cnt`: session ids are never re-used, they do not wrap) leaves every
    other connection exactly as it was, and leaves nothing behind in the tracker: the sessions
    that were live stay live, and the limit is as far away as before -/
theorem churn_keeps_sessions (cnt : Nat) (n : Net) (hw : WF n) (l : Nat) (src : Addr)
    (hl : lookup n l = none) (hroom : n.tracker.ids.length < n.tracker.max) :
    WF (ServerNet.run n (churnSteps l src cnt)).1 ∧
    lookup (ServerNet.run n (churnSteps l src cnt)).1 l = none ∧
    (ServerNet.run n (churnSteps l src cnt)).1.tracker.ids = n.tracker.ids ∧
    (ServerNet.run n (churnSteps l src cnt)).1.tracker.max = n.tracker.max ∧
    ∀ a, a ≠ l → lookup (ServerNet.run n (churnSteps l src cnt)).1 a = lookup n a := by
  induction cnt generalizing n with
  | zero => exact ⟨hw, hl, rfl, rfl, fun _ _ => rfl⟩
  | succ c ih =>
    rw [churnSteps_succ]
    have hrun : (ServerNet.run n (.connect l src :: .close l :: churnSteps l src c)).1
        = (ServerNet.run (ServerNet.run n [.connect l src, .close l]).1 (churnSteps l src c)).1 := by
      rw [run_pair_fst, run_cons, run_cons]
    rw [hrun]
    obtain ⟨h1, h2, h3, h4, h5⟩ := churn_one n hw l src hl hroom
    obtain ⟨i1, i2, i3, i4, i5⟩ := ih _ h1 h2 (by rw [h3, h4]; exact hroom)
    exact ⟨i1, i2, i3.trans h3, i4.trans h4, fun a ha => (i5 a ha).trans (h5 a ha)⟩

/-- the same for the open/closed status -/
theorem churn_keeps_open (cnt : Nat) (n : Net) (hw : WF n) (l : Nat) (src : Addr)
    (hl : lookup n l = none) (hroom : n.tracker.ids.length < n.tracker.max) (a : Nat) (ha : a ≠ l) :
    isOpen (ServerNet.run n (churnSteps l src cnt)).1 a = isOpen n a :=
  isOpen_congr ((churn_keeps_sessions cnt n hw l src hl hroom).2.2.2.2 a ha)

/-- when two sessions end, the order in which the server learns of it is immaterial — same
    tracker, same table entries (a burst of simultaneous session ends is any of its
    serialisations) -/
theorem burst_order_irrelevant (n : Net) (a b : Nat) (hab : a ≠ b) :
    (ServerNet.run n [.close a, .close b]).1.tracker = (ServerNet.run n [.close b, .close a]).1.tracker ∧
    ∀ c, lookup (ServerNet.run n [.close a, .close b]).1 c = lookup (ServerNet.run n [.close b, .close a]).1 c := by
  rw [run_pair_fst, run_pair_fst]
  refine ⟨?_, fun c => ?_⟩
  · -- only two sessions that are both open remove two ids, and removals commute
    rw [tracker_close, tracker_close, tracker_close, tracker_close, lookup_close, lookup_close,
      if_neg hab, if_neg (Ne.symm hab), closeTracker_comm]
  · rw [lookup_close, lookup_close, lookup_close, lookup_close]
    by_cases hca : c = a
    · rw [if_pos hca, if_pos hca, ite_self]
    · rw [if_neg hca, if_neg hca]

/-- max 2, three peers: the oldest is evicted, the others keep being served -/
example :
    (ServerNet.run (init 2 .any false)
      [.connect 1 (.v4 127 0 0 1), .connect 2 (.v4 127 0 0 1), .connect 3 (.v4 127 0 0 1),
       .probe 1, .request 2, .request 3, .shutdown, .probe 3, .connect 4 (.v4 127 0 0 1)]).2 =
    [.conn 1 "open", .conn 2 "open", .conn 3 "open", .prob 1 "closed", .req 2 "ok.982",
     .req 3 "ok.982", .cmd "S" "ok", .prob 3 "closed", .conn 4 "refused"] := rfl

/-- the bound is attained: max 2, after three accepted peers exactly two connections are open -/
example :
    ((ServerNet.run (init 2 .any false)
      [.connect 1 (.v4 127 0 0 1), .connect 2 (.v4 127 0 0 1), .connect 3 (.v4 127 0 0 1)]).1.conns
        = [(1, none), (2, some 1), (3, some 2)]) := by decide +kernel

/-- a filtered-out peer consumes no id and evicts nobody; `max_sessions = 0` behaves as 1 -/
example :
    let r := ServerNet.run (init 0 (.exact (.v4 10 0 0 1)) true)
      [.connect 1 (.v4 10 0 0 1), .connect 2 (.v4 10 0 0 2), .probe 1, .connect 3 (.v4 10 0 0 1),
       .probe 1, .garbage 3, .probe 3, .dropHandle, .shutdown]
    r.1.tracker = ⟨1, 2, []⟩ ∧ r.1.conns = [(1, none), (2, none), (3, none)] ∧
    r.1.listening = false ∧ r.1.handle = false ∧
    r.2 = [.conn 1 "open", .conn 2 "closed", .prob 1 "open", .conn 3 "open", .prob 1 "closed",
      .garb 3 "data", .prob 3 "closed"] := by decide +kernel

/-- the hypotheses of `evicted_is_oldest` are satisfiable (state after two accepted peers) -/
example : ∃ n : Net, WF n ∧ n.listening = true ∧ n.tracker.ids.length ≥ n.tracker.max ∧
    isOpen n 1 = true ∧ isOpen n 2 = true :=
  ⟨(ServerNet.run (init 2 .any false) [.connect 1 (.v4 127 0 0 1), .connect 2 (.v4 127 0 0 1)]).1,
   wf_run _ _ (wf_init _ _ _), by decide +kernel, by decide +kernel, by decide +kernel, by decide +kernel⟩

/-- the side condition of `tracked_ids_open` is needed: re-using the open label 2 leaves id 1 in
    the tracker without an owner, and the next `connect` then evicts connection 1 although only
    three connections are open (the harness would have dropped the old socket of label 2, ending
    session 1; the generated scripts never re-use a label) -/
example :
    let r := ServerNet.run (init 3 .any false)
      [.connect 1 (.v4 127 0 0 1), .connect 2 (.v4 127 0 0 1), .connect 2 (.v4 127 0 0 1),
       .connect 3 (.v4 127 0 0 1), .probe 1]
    r.1.tracker.ids = [1, 2, 3] ∧ r.1.conns = [(1, none), (2, some 2), (3, some 3)] ∧
    r.2 = [.conn 1 "open", .conn 2 "open", .conn 2 "open", .conn 3 "open", .prob 1 "closed"] := by
  decide +kernel

/-- pipelined requests: all answered on an open plain-TCP connection, none on an evicted one;
    the other connections are not disturbed -/
example :
    (ServerNet.run (init 2 .any false)
      [.connect 1 (.v4 127 0 0 1), .pipeline 1 20000, .connect 2 (.v4 127 0 0 1), .pipeline 2 3,
       .connect 3 (.v4 127 0 0 1), .pipeline 1 5, .pipeline 2 7, .pipeline 9 1, .request 3]).2 =
    [.conn 1 "open", .pipe 1 "ok" 20000, .conn 2 "open", .pipe 2 "ok" 3, .conn 3 "open",
     .pipe 1 "closed" 0, .pipe 2 "ok" 7, .pipe 9 "noconn" 0, .req 3 "ok.982"] := rfl

/-- churn below the limit (max 2: one live session + the churn peer): the live session stays,
    the next real peer does not evict it either, the one after that does -/
example :
    let a : Addr := .v4 127 0 0 1
    let r := ServerNet.run (init 2 .any false)
      ([.connect 1 a] ++ churnSteps 0 a 5 ++ [.probe 1, .connect 2 a, .probe 1, .connect 3 a, .probe 1])
    r.1.tracker = ⟨2, 8, [6, 7]⟩ ∧
    r.2.filter (fun o => match o with | .conn 0 _ => false | _ => true) =
      [.conn 1 "open", .prob 1 "open", .conn 2 "open", .prob 1 "open", .conn 3 "open", .prob 1 "closed"] := by
  decide +kernel

/-- at the limit every churn peer evicts the oldest session, like any other peer -/
example :
    let a : Addr := .v4 127 0 0 1
    (ServerNet.run (init 1 .any false) ([.connect 1 a] ++ churnSteps 0 a 1 ++ [.probe 1])).2 =
      [.conn 1 "open", .conn 0 "open", .prob 1 "closed"] := rfl

/-- a burst: three of four sessions end, the survivor is the oldest and stays when the slots
    are taken again -/
example :
    let a : Addr := .v4 127 0 0 1
    (ServerNet.run (init 4 .any false)
      [.connect 1 a, .connect 2 a, .connect 3 a, .connect 4 a, .close 2, .close 3, .close 4,
       .connect 5 a, .connect 6 a, .connect 7 a, .probe 1, .connect 8 a, .probe 1]).2 =
      [.conn 1 "open", .conn 2 "open", .conn 3 "open", .conn 4 "open", .conn 5 "open", .conn 6 "open",
       .conn 7 "open", .prob 1 "open", .conn 8 "open", .prob 1 "closed"] := by decide +kernel

end Rodbus.C15Net
