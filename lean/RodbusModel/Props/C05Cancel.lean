import RodbusModel.Props.C06
import RodbusModel.Props.C01Session
/-
  Cancel safety of `FramedReader::next_frame` (C05, C02, C20): the `select!` loops of the server
  session (`run_one`) and of the client (`poll`) drop the future of `next_frame` whenever a command
  arrives while the reader waits for the transport.  `read_some` adjusts the buffer indices (reset
  when empty, compaction when the end of the buffer is reached) BEFORE it awaits the transport, so
  what a dropped future leaves behind is `rb.normalize`.  For every delivery schedule and every set
  of cancellation points, both readers deliver exactly what they deliver without cancellations;
  lifted to server sessions: `runSessionC = runSession` for every script.
-/
namespace Rodbus.Cancel
open Rodbus

/-- C05/C02/C20: cancelling pending transport reads at any points of any delivery schedule does not
    change what the MBAP reader delivers -/
theorem cancel_safe_mbap (ds : List (Option Bytes)) :
    runChunksC Mbap.parse .begin RB.empty ds = Mbap.run (ds.filterMap id) :=
  runChunksC_eq Mbap.refines ds .begin RB.empty (by simp [RB.empty]) trivial
    (by simp [Mbap.need, RB.empty])

/-- the same for the RTU reader, in both directions -/
theorem cancel_safe_rtu (d : Rtu.Dir) (ds : List (Option Bytes)) :
    runChunksC (Rtu.parse d) .start RB.empty ds = Rtu.run d (ds.filterMap id) :=
  runChunksC_eq (Rtu.refines d) ds .start RB.empty (by simp [RB.empty]) trivial
    (by simp [Rtu.need, RB.empty])

theorem deliveriesC_cut (script : List SessStep) :
    (deliveriesC script).1.filterMap id = (cutScript script).1
    ∧ (deliveriesC script).2 = (cutScript script).2 := by
  induction script with
  | nil => exact ⟨rfl, rfl⟩
  | cons s rest ih =>
    cases s with
    | data bs => simp only [deliveriesC, cutScript, List.filterMap_cons, id]; exact ⟨by rw [ih.1], ih.2⟩
    | setDecode l => simp only [deliveriesC, cutScript, List.filterMap_cons, id]; exact ih
    | shutdown => exact ⟨rfl, rfl⟩
    | readErr => exact ⟨rfl, rfl⟩
    | eof => exact ⟨rfl, rfl⟩

theorem readerRunC_eq (fr : Framing) (ds : List (Option Bytes)) :
    readerRunC fr ds = readerRun fr (ds.filterMap id) := by
  cases fr with
  | tcp => exact cancel_safe_mbap ds
  | rtu => exact cancel_safe_rtu .request ds

/-- a server session in which every `ChangeDecoding` command cancels the
    pending transport read behaves, for every configuration and script, exactly like the session
    model that ignores commands: same bytes, same handler calls, same states, same end -/
theorem session_cancel_safe {σ : Type} (fr : Framing) (cfg : ServerCfg σ) (l : DecodeLevel)
    (hs : List (Nat × σ)) (script : List SessStep) :
    runSessionC fr cfg l hs script = runSession fr cfg l hs script := by
  have h := deliveriesC_cut script
  show handleEvents fr cfg (deliveriesC script).2 hs (readerRunC fr (deliveriesC script).1)
    = handleEvents fr cfg (cutScript script).2 hs (readerRun fr (cutScript script).1)
  rw [readerRunC_eq, h.1, h.2]

/-- the two fault models compose: cancelled reads change nothing about a session with a failing
    transport write either, for every fault position -/
theorem session_cancel_safe_with_write_fault {σ : Type} (fr : Framing) (cfg : ServerCfg σ)
    (l : DecodeLevel) (n : Nat) (hs : List (Nat × σ)) (script : List SessStep) :
    runSessionWC fr cfg l n hs script = runSessionW fr cfg l n hs script := by
  have h := deliveriesC_cut script
  show handleEventsW fr cfg (deliveriesC script).2 n hs (readerRunC fr (deliveriesC script).1)
    = handleEventsW fr cfg (cutScript script).2 n hs (readerRun fr (cutScript script).1)
  rw [readerRunC_eq, h.1, h.2]

/-- 22 pipelined 12-byte requests = 264 bytes; the first delivery fills the buffer to its end (260)
    with a partial request at the end, the read is cancelled twice, the rest arrives: 22 frames -/
example :
    let req : Bytes := [0, 1, 0, 0, 0, 6, 1, 3, 0, 0, 0, 1]
    let stream := (List.replicate 22 req).flatten
    (runChunksC Mbap.parse .begin RB.empty [some (stream.take 260), none, none, some (stream.drop 260)]).length = 22
    ∧ (stream.take 260).length = 260 := by
  decide +kernel

end Rodbus.Cancel
