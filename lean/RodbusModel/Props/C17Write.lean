import RodbusModel.Lemmas.ServerSession
import RodbusModel.Props.C17
/-
  C17 and the failing write of Props/C01Write, at the level of the fold `handledW` (the frames a
  session over a failing transport handles, Lemmas/ServerSession): a frame at the head of the list
  that is not answered — a broadcast on a serial link, a frame for a unit the server does not
  host — is handled and leaves the fault position where it was.  These are statements about one
  step of `handledW`, for every position, configuration and handler; they are not composed into a
  statement about `runSessionW`.
-/
namespace Rodbus.C01W

/-- (C17 with a failing transport) on a serial link a broadcast write in front of the frames is
    executed and never touches the fault position, whatever the position is — even with a
    transport that accepts no write at all (`n = 0`) -/
theorem broadcast_survives_write_fault {σ : Type} (cfg : ServerCfg σ) (n : Nat)
    (hs : List (Nat × σ)) (f : Frame) (fs : List Frame) (hb : isBroadcast cfg f = true) :
    (handledW cfg n hs (f :: fs)).1
      = f :: (handledW cfg n (handleFrame cfg hs f).states fs).1 := by
  rw [unanswered_keeps_budget cfg n hs f fs (C17.broadcast_never_answered cfg hs f hb)]

/-- (C17 with a failing transport) a frame in front of the frames for a unit this server does not
    host leaves no trace and does not move the fault position either -/
theorem foreign_frames_invisible_to_fault {σ : Type} (cfg : ServerCfg σ) (n : Nat)
    (hs : List (Nat × σ)) (f : Frame) (fs : List Frame)
    (hb : isBroadcast cfg f = false) (hl : lookupUnit hs f.dest = none) (ha : cfg.auth = none) :
    handledW cfg n hs (f :: fs) = (f :: (handledW cfg n hs fs).1, (handledW cfg n hs fs).2) := by
  have h := C17.silent_unless_addressed cfg hs f hb hl ha
  rw [unanswered_keeps_budget cfg n hs f fs (by rw [h]), h]

end Rodbus.C01W
