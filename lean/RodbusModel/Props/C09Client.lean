import RodbusModel.Props.C09
import RodbusModel.Model.TlsClientChain
/-
  C09, client side, the Certificate message as a list (`admitClientChain`,
  Model/TlsClientChain.lean), as on the server side; the two roles agree on the self-signed
  verifier (one `verify_peer` for both).
  Hypotheses as for C09: the TLS library reports the certificate attributes correctly and
  negotiates the highest common enabled version.
-/
namespace Rodbus.C09
open Rodbus.Tls

/-- the self-signed verifier of the client accepts exactly one certificate: a second one — an
    "intermediate" — makes it fail, even when the first is the expected certificate -/
theorem client_self_signed_single_certificate (min : Ver) (e : Nat) (name : Option String)
    (offered : List Ver) (c d : Cert) (rest : List Cert) :
    admitClientChain min (.selfSigned e) name offered (c :: d :: rest) = none := rfl

/-- in authority mode certificates sent after the end entity change nothing: admission and
    version are those of the first certificate alone (name check included) -/
theorem client_extra_certificates_irrelevant (min : Ver) (t : Nat) (name : Option String)
    (offered : List Ver) (c : Cert) (rest : List Cert) :
    admitClientChain min (.authority t) name offered (c :: rest)
      = admitClient min (.authority t) name offered (some c) := by
  cases rest <;> rfl

theorem client_single_certificate (min : Ver) (mode : Mode) (name : Option String)
    (offered : List Ver) (c : Cert) :
    admitClientChain min mode name offered [c] = admitClient min mode name offered (some c) := by
  cases mode <;> rfl

theorem client_empty_chain_refused (min : Ver) (mode : Mode) (name : Option String)
    (offered : List Ver) : admitClientChain min mode name offered [] = none := by
  cases mode <;> exact admitClient_none ..

/-- the client proceeds iff the server offers a version at or above the minimum and its
    Certificate message starts with a certificate that validates under the configured mode —
    and, in self-signed mode, consists of that certificate alone -/
theorem client_chain_admit_iff (min : Ver) (mode : Mode) (name : Option String)
    (offered : List Ver) (chain : List Cert) :
    (admitClientChain min mode name offered chain).isSome ↔
      (∃ v ∈ offered, min.rank ≤ v.rank) ∧
      ∃ c rest, chain = c :: rest ∧ certAccepted mode name (some c) = true ∧
        ((∃ e, mode = .selfSigned e) → rest = []) := by
  cases chain with
  | nil =>
    rw [client_empty_chain_refused]
    simp
  | cons c rest =>
    cases mode with
    | authority t =>
      rw [client_extra_certificates_irrelevant, client_admit_iff]
      simp
    | selfSigned e =>
      cases rest with
      | nil =>
        rw [client_single_certificate, client_admit_iff]
        simp
      | cons d rest' =>
        rw [client_self_signed_single_certificate]
        simp

theorem client_chain_version (min : Ver) (mode : Mode) (name : Option String)
    (offered : List Ver) (chain : List Cert) (v : Ver)
    (h : admitClientChain min mode name offered chain = some v) :
    min.rank ≤ v.rank ∧ v ∈ offered := by
  unfold admitClientChain at h
  split at h
  · cases h
  · exact negotiated_at_least_min min offered v ((admitClient_eq_some ..).1 h).1

/-- in self-signed mode the server name plays no role ("in lieu of performing server subject
    name validation"): the verdict is the same for every configured name -/
theorem client_self_signed_name_irrelevant (min : Ver) (e : Nat) (name name' : Option String)
    (offered : List Ver) (chain : List Cert) :
    admitClientChain min (.selfSigned e) name offered chain
      = admitClientChain min (.selfSigned e) name' offered chain := by
  match chain with
  | [] => rfl
  | [c] => rfl
  | _ :: _ :: _ => rfl

/-- both roles use the same self-signed verifier: a Certificate message is accepted by a
    self-signed client iff a self-signed server (without authorization) with the same expected
    certificate and minimum version accepts it from a peer offering the same versions -/
theorem self_signed_verifier_symmetric (min : Ver) (e : Nat) (name : Option String)
    (offered : List Ver) (chain : List Cert) :
    (admitClientChain min (.selfSigned e) name offered chain).isSome
      = (admitServerChain min (.selfSigned e) false offered chain).isSome := by
  match chain with
  | [] => rw [client_empty_chain_refused, empty_chain_refused]; rfl
  | _ :: _ :: _ => rfl
  | [c] =>
    -- one certificate: both sides check the version and `certAccepted`, which ignores the name
    show (admitClient min (.selfSigned e) name offered (some c)).isSome
      = (admitServer min (.selfSigned e) false offered (some c)).isSome
    rw [Bool.eq_iff_iff, client_admit_iff, admit_iff]
    exact ⟨fun ⟨h1, h2⟩ => ⟨h1, h2, nofun⟩, fun ⟨h1, h2, _⟩ => ⟨h1, h2⟩⟩

/-- the expected certificate alone is accepted; followed by a second certificate — even a copy of
    itself — it is refused; in authority mode the same extra certificate is harmless -/
example :
    let srv : Cert := ⟨none, ["server"], true, [], 42⟩
    let ca : Cert := ⟨some 1, ["test.com"], true, [], 5⟩
    admitClientChain .v12 (.selfSigned 42) none [.v12, .v13] [srv] = some .v13
    ∧ admitClientChain .v12 (.selfSigned 42) none [.v12, .v13] [srv, srv] = none
    ∧ admitClientChain .v12 (.selfSigned 42) none [.v12, .v13] [] = none
    ∧ admitClientChain .v12 (.authority 1) (some "test.com") [.v12] [ca, srv] = some .v12
    ∧ admitClientChain .v13 (.authority 1) (some "test.com") [.v12] [ca, srv] = none
    ∧ admitClientChain .v12 (.authority 1) (some "other.com") [.v12] [ca, srv] = none := by
  decide +kernel

end Rodbus.C09
