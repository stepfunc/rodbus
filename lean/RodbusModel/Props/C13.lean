import RodbusModel.Lemmas.LifecycleRun
import RodbusModel.Lemmas.LifecycleCalc
import RodbusModel.Props.C14
/-
  C13 — The connection-state listener always observes a legal path: Disabled first; Connecting
  only while enabled; Connected only directly after Connecting; a wait state after every failed
  connect or lost connection; Disabled after a disable, which also closes an open connection;
  Shutdown exactly once and last, after which every handle reports shutdown.  While not connected,
  requests fail immediately with no-connection instead of queueing, no connection attempt is made
  while disabled, and shutdown or dropping all handles ends the task from every state.

  C14 (task-level half) — after the k-th consecutive failed connect the wait is min × 2^(k-1)
  capped at max, after a lost connection it is min, and the sequence restarts at min after any
  successful connection.  The delay announced to the listener is the delay actually waited: of
  this the model, in which time is abstracted, says only what `wait_is_waited` states.

  `advance` runs the task until it blocks, `stop` lets the environment act at a blocking point,
  `runStops` runs a script of stops (Model/Lifecycle.lean); `run s0 script` is a full run from an
  `Initial s0`, which leaves retry strategy, peer behaviours, timeout limit and scheduler coins
  arbitrary, and `Reachable` is a position of such a run (Lemmas/Lifecycle.lean).  Gate events
  (`.gate st`) are appended to the log by `stop` when the listener callback runs; `states log`
  extracts them.

  The model goes beyond the plain state path in that `runStops` goes on after `Pos.done` (the
  handles of an ended task: `applyDone`); that the race between the peer's EOF / garbage and the
  command queue in `ClientLoop::poll` (`select!`) is resolved by the coins; and that a peer may go
  away in the middle of a session (`Behaviour.serveN`).  `hsfail` is TLS: the TCP connect
  succeeds, the handshake fails; it is a failed attempt exactly like `refuse`.  The user alphabet
  includes `Channel::set_decode_level` at every blocking point.  The connection object is in
  Props/C13Conn.lean, C14 for all scripts in Props/C14Life.lean.
-/
namespace Rodbus.C13
open Rodbus.Life Rodbus.Spec.Life

/-- the listener sees a legal path: `Disabled` first, every adjacent pair in `legalNext`,
    `Shutdown` at most once and last -/
theorem legal_path (s0 : S) (h0 : Initial s0) (script : List (List Action)) :
    legalLog (run s0 script).1.log = true :=
  have := (reachable_run h0 script).runQ.path
  legalLog_of _ this.1 this.2

/-- `legal_path` without the Boolean packaging -/
theorem legal_path_spelled_out (s0 : S) (h0 : Initial s0) (script : List (List Action)) :
    (states (run s0 script).1.log = [] ∨
      (states (run s0 script).1.log).head? = some .disabled) ∧
    (∀ pre a b post, states (run s0 script).1.log = pre ++ a :: b :: post →
      legalNext a b = true) ∧
    (states (run s0 script).1.log).count .shutdown ≤ 1 ∧
    (∀ pre post, states (run s0 script).1.log = pre ++ .shutdown :: post → post = []) := by
  have hinv := (reachable_run h0 script).runQ.path
  have hadj : ∀ pre a b post, states (run s0 script).1.log = pre ++ a :: b :: post →
      legalNext a b = true := fun pre a b post h =>
    legalPath_adjacent pre a b post (h ▸ hinv.2)
  refine ⟨hinv.1.symm, hadj, (legalPath_shutdown_last _ hinv.2).1, ?_⟩
  intro pre post h
  cases post with
  | nil => rfl
  | cons b post =>
    have := hadj pre .shutdown b post h
    rw [legalNext_shutdown_left] at this
    exact absurd this (by decide)

/-- Connecting only while enabled: for a single call of `advance`, from any state -/
theorem connecting_only_enabled (fuel : Nat) (ph : Phase) (s s' : S) (next : Phase)
    (h : advance fuel ph s = (s', .gate .connecting next)) :
    s'.enabled = true ∧ next = .connect := by
  have := advance_eff (P := fun _ _ => True)
    (Q := fun c pos => ∀ next, pos = .gate .connecting next → c.enabled = true ∧ next = .connect)
    (fun _ _ _ _ => nofun)
    (fun _ _ nx _ he _ => by
      cases nx with
      | cont => trivial
      | halt pos =>
        intro next hp
        subst hp
        -- the one effect that blocks at `Connecting`
        cases he with
        | dial _ _ hen => exact ⟨hen, rfl⟩)
    fuel ph s trivial
  rw [h] at this
  exact this next rfl

theorem connecting_only_enabled_run (s0 : S) (h0 : Initial s0) (script : List (List Action))
    (s : S) (next : Phase) (h : run s0 script = (s, .gate .connecting next)) :
    s.enabled = true :=
  (Reachable.runQ ⟨s0, script, h0, h⟩).pos.connecting rfl

/-- no connection attempt is made while disabled: the task is about to connect, in a session or
    waiting to reconnect (`needsEnabled`) only with the flag set, and `Disabled` is announced only
    with the flag cleared -/
theorem no_attempt_while_disabled (s : S) (pos : Pos) (hr : Reachable s pos) :
    (∀ st ph, pos = .gate st ph → needsEnabled ph = true → s.enabled = true) ∧
    (∀ ph, pos = .idle ph → needsEnabled ph = true → s.enabled = true) ∧
    (∀ next, pos = .gate .disabled next → s.enabled = false) := by
  have hinv := hr.runQ.pos
  refine ⟨?_, ?_, ?_⟩
  · intro st ph hp hn; subst hp; exact hinv.phase.enabled hn
  · intro ph hp hn; subst hp
    obtain ⟨l, _, hl⟩ := hinv
    exact hl.enabled hn
  · intro next hp; subst hp; exact hinv.disabled rfl

theorem connected_only_after_connecting (s0 : S) (h0 : Initial s0) (script : List (List Action))
    (pre post : List St) (h : states (run s0 script).1.log = pre ++ .connected :: post) :
    ∃ pre', pre = pre' ++ [.connecting] := by
  obtain ⟨hhead, hadj, _⟩ := legal_path_spelled_out s0 h0 script
  rcases List.eq_nil_or_concat pre with rfl | ⟨pre', l, rfl⟩
  · -- the first announced state is `Disabled`
    rcases hhead with h1 | h1 <;> rw [h] at h1 <;> simp at h1
  · exact ⟨pre', by
      rw [legalNext_connected (hadj pre' l .connected post (by simpa using h)), List.concat_eq_append]⟩

/-- a wait state after every failed connect: the connect is refused, or (TLS) the TCP connect
    succeeds and the handshake fails — both end in `handle_failed_connection`.  With a live handle
    and no `Disable` / `Shutdown` queued (requests, redundant enables and decode-level changes are
    answered / ignored / applied first) the task goes straight to the gate
    `WaitAfterFailedConnect d`, `d` what `after_failed_connect` returned; the strategy is advanced
    and NOT reset, whatever the reason of the failure.  The fuel condition is forced by the model:
    one unit per queued command plus one (`stop` supplies `2·len + 8`). -/
theorem wait_after_failed_attempt (s : S) (fuel : Nat) (hq : ∀ c ∈ s.queue, benign c = true)
    (hh : s.handles = true) (hc : s.cur.fails = true) (hf : s.queue.length + 1 ≤ fuel) :
    advance fuel .connect s =
      ({ s with queue := [], log := s.log ++ noconnEvents s.queue,
                retry := (Retry.afterFailedConnect s.retry).2,
                decode := decodeAfter s.decode s.queue },
        .gate (.waitFail (Retry.afterFailedConnect s.retry).1) .failFor) := by
  obtain ⟨k, rfl⟩ : ∃ k, fuel = s.queue.length + (k + 1) := ⟨fuel - s.queue.length - 1, by omega⟩
  rw [advance_passes .connect s.queue [] s (k + 1) hq nofun (by simp), advance_succ]
  simp [step, hh, hc, Res.fin]

/-- … for a refused connect -/
theorem wait_after_refused (s : S) (fuel : Nat) (hq : ∀ c ∈ s.queue, benign c = true)
    (hh : s.handles = true) (hc : s.cur = .refuse) (hf : s.queue.length + 1 ≤ fuel) :
    advance fuel .connect s =
      ({ s with queue := [], log := s.log ++ noconnEvents s.queue,
                retry := (Retry.afterFailedConnect s.retry).2,
                decode := decodeAfter s.decode s.queue },
        .gate (.waitFail (Retry.afterFailedConnect s.retry).1) .failFor) :=
  wait_after_failed_attempt s fuel hq hh (by rw [hc]; rfl) hf

/-- … and for a failed TLS handshake: the TCP connect succeeded, the connection handler failed;
    the same wait state, delay and strategy update as for a refused connect -/
theorem wait_after_failed_handshake (s : S) (fuel : Nat) (hq : ∀ c ∈ s.queue, benign c = true)
    (hh : s.handles = true) (hc : s.cur = .hsfail) (hf : s.queue.length + 1 ≤ fuel) :
    advance fuel .connect s =
      ({ s with queue := [], log := s.log ++ noconnEvents s.queue,
                retry := (Retry.afterFailedConnect s.retry).2,
                decode := decodeAfter s.decode s.queue },
        .gate (.waitFail (Retry.afterFailedConnect s.retry).1) .failFor) :=
  wait_after_failed_attempt s fuel hq hh (by rw [hc]; rfl) hf

/-- the same at the level of stops: the listener sees `Connecting`, then (at the next stop)
    `WaitAfterFailedConnect d` -/
theorem wait_after_failed_attempt_announced (s : S) (hq : s.queue = []) (hh : s.handles = true)
    (hc : s.cur.fails = true) (acts : List Action) :
    let r1 := stop s (.gate .connecting .connect) []
    states (stop r1.1 r1.2 acts).1.log =
      states s.log ++ [.connecting, .waitFail (Retry.afterFailedConnect s.retry).1] := by
  intro r1
  have h2 : r1.2 = .gate (.waitFail (Retry.afterFailedConnect s.retry).1) .failFor := by
    simp [r1, stop, fuelFor_succ, advance_succ, step, hq, hh, hc, Res.fin, report_eq]
  rw [h2, stop_gate_states, stop_gate_states, List.append_assoc]
  rfl

theorem wait_after_refused_announced (s : S) (hq : s.queue = []) (hh : s.handles = true)
    (hc : s.cur = .refuse) (acts : List Action) :
    let r1 := stop s (.gate .connecting .connect) []
    states (stop r1.1 r1.2 acts).1.log =
      states s.log ++ [.connecting, .waitFail (Retry.afterFailedConnect s.retry).1] :=
  wait_after_failed_attempt_announced s hq hh (by rw [hc]; rfl) acts

theorem wait_after_failed_handshake_announced (s : S) (hq : s.queue = []) (hh : s.handles = true)
    (hc : s.cur = .hsfail) (acts : List Action) :
    let r1 := stop s (.gate .connecting .connect) []
    states (stop r1.1 r1.2 acts).1.log =
      states s.log ++ [.connecting, .waitFail (Retry.afterFailedConnect s.retry).1] :=
  wait_after_failed_attempt_announced s hq hh (by rw [hc]; rfl) acts

/-- every failed attempt, whatever is queued: it ends at the wait state announced with the
    strategy's delay, or — only if a `Disable` resp. `Shutdown` / the loss of all handles is
    processed first — at `Disabled` resp. `Shutdown`; never at `Connected`, and nowhere else -/
theorem failed_attempt_outcomes (fuel : Nat) (ph : Phase) (s : S)
    (hph : ph = .connect ∨ ph = .afterDisable) (hc : s.cur.fails = true)
    (hf : s.queue.length + 1 ≤ fuel) :
    (advance fuel ph s).2 = .gate (.waitFail (Retry.afterFailedConnect s.retry).1) .failFor ∨
    (advance fuel ph s).2 = .gate .disabled .waitEnabled ∨
    (advance fuel ph s).2 = .gate .shutdown .finished := by
  refine (advance_eff_fuel
    (P := fun ph c => (ph = .connect ∨ ph = .afterDisable) ∧ c.cur.fails = true ∧ c.retry = s.retry)
    (Q := fun _ pos => pos = .gate (.waitFail (Retry.afterFailedConnect s.retry).1) .failFor ∨
      pos = .gate .disabled .waitEnabled ∨ pos = .gate .shutdown .finished)
    (fun ph c nx c' h ⟨hph, hc, hr⟩ => ?_) fuel ph s ⟨hph, hc, rfl⟩
    (by rcases hph with rfl | rfl <;> rfl) (by rcases hph with rfl | rfl <;> exact hf)).2
  -- in these two phases the attempt is neither repeated nor accepted
  rcases hph with rfl | rfl <;> cases h <;> simp_all [Next.sat, Reads]

/-- … for a refused connect -/
theorem refused_outcomes (fuel : Nat) (ph : Phase) (s : S)
    (hph : ph = .connect ∨ ph = .afterDisable) (hc : s.cur = .refuse)
    (hf : s.queue.length + 1 ≤ fuel) :
    (advance fuel ph s).2 = .gate (.waitFail (Retry.afterFailedConnect s.retry).1) .failFor ∨
    (advance fuel ph s).2 = .gate .disabled .waitEnabled ∨
    (advance fuel ph s).2 = .gate .shutdown .finished :=
  failed_attempt_outcomes fuel ph s hph (by rw [hc]; rfl) hf

/-- … and for a failed TLS handshake: in particular it never ends at `Connected` -/
theorem failed_handshake_outcomes (fuel : Nat) (ph : Phase) (s : S)
    (hph : ph = .connect ∨ ph = .afterDisable) (hc : s.cur = .hsfail)
    (hf : s.queue.length + 1 ≤ fuel) :
    (advance fuel ph s).2 = .gate (.waitFail (Retry.afterFailedConnect s.retry).1) .failFor ∨
    (advance fuel ph s).2 = .gate .disabled .waitEnabled ∨
    (advance fuel ph s).2 = .gate .shutdown .finished :=
  failed_attempt_outcomes fuel ph s hph (by rw [hc]; rfl) hf

/-- every session in which the peer is gone (it has closed its side or sent garbage: the socket
    branch of `ClientLoop::poll` is ready) ends, whatever is queued and however `select!` resolves
    (the coins of `s` are arbitrary): the connection is closed and the task blocks at
    `WaitAfterDisconnect(after_disconnect())`, or — only if a `Disable` resp. a `Shutdown` / the
    loss of every handle wins the race — at `Disabled` resp. `Shutdown`.  The retry strategy is not
    touched. -/
theorem lost_session_outcomes (b : Behaviour) (hbf : b.fails = false) (fuel : Nat) (ph : Phase)
    (s : S) (hph : ph = .session b ∨ ph = .afterDisable) (hg : b.gone s.served = true)
    (hc : ph = .afterDisable → s.conn = false) (hf : s.queue.length + 1 ≤ fuel) :
    ((advance fuel ph s).2 = .gate (.waitDisc (Retry.afterDisconnect s.retry)) .failFor ∨
     (advance fuel ph s).2 = .gate .disabled .waitEnabled ∨
     (advance fuel ph s).2 = .gate .shutdown .finished) ∧
    (advance fuel ph s).1.conn = false ∧ (advance fuel ph s).1.retry = s.retry := by
  refine (advance_sat_fuel
    (P := fun ph s' =>
      (ph = .session b ∧ b.gone s'.served = true ∨ ph = .afterDisable ∧ s'.conn = false) ∧
        s'.retry = s.retry)
    (Q := fun s' pos => (pos = .gate (.waitDisc (Retry.afterDisconnect s.retry)) .failFor ∨
      pos = .gate .disabled .waitEnabled ∨ pos = .gate .shutdown .finished) ∧
      s'.conn = false ∧ s'.retry = s.retry)
    ?_ fuel ph s ⟨?_, rfl⟩ (by rcases hph with rfl | rfl <;> simp [sessOk, hbf])
    (by rcases hph with rfl | rfl <;> exact hf)).2
  · rintro ph s' ⟨⟨rfl, hg⟩ | ⟨rfl, hc⟩, hr⟩
    · -- the peer is gone: the session ends unless a command that keeps it wins the race
      cases hq : s'.queue with
      | nil =>
        by_cases hh : s'.handles = true <;> by_cases hcoin : s'.coinVal = true <;>
          simp [step, hq, hh, hg, hbf, hcoin, hr]
      | cons c q =>
        by_cases hcoin : s'.coinVal = true
        · simp [step, hq, hg, hbf, hcoin, hr]
        · cases c <;> simp [step, hq, hg, hbf, hcoin, hr]
    · simp [step, hc, hr]
  · rcases hph with rfl | rfl
    · exact .inl ⟨rfl, hg⟩
    · exact .inr ⟨rfl, hc rfl⟩

/-- … and it ends at `WaitAfterDisconnect` if the socket wins the first race, or nothing races it
    (nothing queued and a live handle) -/
theorem lost_session_socket_first (b : Behaviour) (hbf : b.fails = false) (s : S)
    (hg : b.gone s.served = true)
    (h : s.coinVal = true ∨ (s.queue = [] ∧ s.handles = true)) (fuel : Nat) :
    (advance (fuel + 1) (.session b) s).2 =
      .gate (.waitDisc (Retry.afterDisconnect s.retry)) .failFor := by
  rw [advance_succ]
  rcases h with hcoin | ⟨hq, hh⟩
  · cases hq : s.queue with
    | nil => by_cases hh : s.handles = true <;> simp [step, hq, hh, hbf, hg, hcoin, Res.fin]
    | cons c q => simp [step, hq, hbf, hg, hcoin, Res.fin]
  · simp [step, hq, hh, hbf, hg, Res.fin]

/-- a wait state after a lost connection: with a peer that closes the connection or sends
    garbage, the session that starts at the `Connected` gate ends at once, whatever the user does
    at the gate.  The strategy has been reset at the start of the session and is not touched
    again.  `WaitAfterDisconnect` is announced next unless a command queued at the gate wins the
    `select!` race against the peer's EOF / garbage in `ClientLoop::poll`; if the socket wins the
    first race (`coinVal`), or nothing races it, the commands stay queued and fail fast
    afterwards. -/
theorem wait_after_lost_connection (b : Behaviour) (hb : b = .close ∨ b = .garbage) (s : S)
    (acts : List Action) :
    (stop s (.gate .connected (.sessionStart b)) acts).1.retry = Retry.reset s.retry ∧
    (stop s (.gate .connected (.sessionStart b)) acts).1.conn = false ∧
    ((stop s (.gate .connected (.sessionStart b)) acts).2 =
        .gate (.waitDisc (Retry.afterDisconnect s.retry)) .failFor ∨
     (stop s (.gate .connected (.sessionStart b)) acts).2 = .gate .disabled .waitEnabled ∨
     (stop s (.gate .connected (.sessionStart b)) acts).2 = .gate .shutdown .finished) ∧
    ((s.coinVal = true ∨ (acts = [] ∧ s.queue = [] ∧ s.handles = true)) →
      (stop s (.gate .connected (.sessionStart b)) acts).2 =
        .gate (.waitDisc (Retry.afterDisconnect s.retry)) .failFor) := by
  obtain ⟨l, q, h, hf⟩ := foldl_applyAction_frame acts (s.report.emit (.gate .connected))
  have hbf : b.fails = false := by rcases hb with rfl | rfl <;> rfl
  have hg : ∀ n, b.gone n = true := by rcases hb with rfl | rfl <;> intro n <;> rfl
  simp only [stop, fuelFor_succ]
  generalize hs2 : acts.foldl applyAction (s.report.emit (.gate .connected)) = s2 at hf
  have hr : s2.retry = s.retry := by rw [hf]; simp [report_eq]
  have hcoins : s2.coins = s.coins := by rw [hf]; simp [report_eq]
  rw [advance_succ]
  simp only [step, Res.fin]
  have hout := lost_session_outcomes b hbf (2 * s2.queue.length + 7) (.session b)
    { s2 with retry := Retry.reset s2.retry, tcount := 0, served := 0 } (Or.inl rfl) (hg _)
    (by simp) (by simp only []; omega)
  have hsock := lost_session_socket_first b hbf
    { s2 with retry := Retry.reset s2.retry, tcount := 0, served := 0 } (hg _)
  simp only [Retry.afterDisconnect, Retry.reset] at hout hsock ⊢
  refine ⟨by rw [hout.2.2, hr], hout.2.1, by simpa [hr] using hout.1, ?_⟩
  intro hcase
  have := hsock (by
    rcases hcase with hcoin | ⟨rfl, hq, hh⟩
    · left; simpa [S.coinVal, hcoins] using hcoin
    · right
      simp only [List.foldl_nil] at hs2
      subst hs2
      exact ⟨by simpa [report_eq] using hq, by simpa [report_eq] using hh⟩)
    (2 * s2.queue.length + 6)
  simpa [hr] using this

/-- a peer that serves `k` requests: while fewer than `k` have been answered on this connection a
    request is served like by `serve` -/
theorem serveN_serves (k : Nat) (w : Bool) (s : S) (id : Nat) (rest : List Cmd)
    (hq : s.queue = .request id :: rest) (hk : s.served < k) (fuel : Nat) :
    advance (fuel + 1) (.session (.serveN k w)) s =
      advance fuel (.session (.serveN k w))
        ({ s with queue := rest, tcount := 0, served := s.served + 1 }.emit (.done id "ok.4660")) := by
  have hnk : ¬ k ≤ s.served := Nat.not_le.2 hk
  cases w <;> simp [advance_succ, step, hq, hnk, Res.fin, Behaviour.gone, Behaviour.dropsNext]

/-- the connection is lost with a request in flight: the peer has answered its `k` requests and
    closes when the next one arrives (`serveN k true`).  That request is written, the peer goes
    away, the request fails with the transport error (`io.eof`) and the session ends; the commands
    behind it stay queued. -/
theorem wait_after_lost_connection_in_flight (k : Nat) (s : S) (id : Nat) (rest : List Cmd)
    (hq : s.queue = .request id :: rest) (hk : k ≤ s.served) (fuel : Nat) :
    advance (fuel + 1) (.session (.serveN k true)) s =
      ({ s with queue := rest, log := s.log ++ [.done id "io.eof"], conn := false,
                unreported := true },
        .gate (.waitDisc (Retry.afterDisconnect s.retry)) .failFor) := by
  simp [advance_succ, step, hq, hk, Res.fin, S.emit, S.closeConn, Behaviour.gone,
    Behaviour.dropsNext]

/-- a peer that closes right after its `k`-th reply (`serveN k false`) is gone from then on: the
    session ends like one with a peer that closed at once -/
theorem wait_after_lost_connection_served (k : Nat) (s : S) (hk : k ≤ s.served) (fuel : Nat)
    (hf : s.queue.length + 1 ≤ fuel) :
    ((advance fuel (.session (.serveN k false)) s).2 =
        .gate (.waitDisc (Retry.afterDisconnect s.retry)) .failFor ∨
     (advance fuel (.session (.serveN k false)) s).2 = .gate .disabled .waitEnabled ∨
     (advance fuel (.session (.serveN k false)) s).2 = .gate .shutdown .finished) ∧
    (advance fuel (.session (.serveN k false)) s).1.conn = false ∧
    (advance fuel (.session (.serveN k false)) s).1.retry = s.retry ∧
    ((s.coinVal = true ∨ (s.queue = [] ∧ s.handles = true)) →
      (advance fuel (.session (.serveN k false)) s).2 =
        .gate (.waitDisc (Retry.afterDisconnect s.retry)) .failFor) := by
  have hg : (Behaviour.serveN k false).gone s.served = true := by simp [hk]
  have h1 := lost_session_outcomes (.serveN k false) rfl fuel (.session (.serveN k false)) s
    (Or.inl rfl) hg (by simp) hf
  refine ⟨h1.1, h1.2.1, h1.2.2, ?_⟩
  intro hcase
  obtain ⟨f, rfl⟩ : ∃ f, fuel = f + 1 := ⟨fuel - 1, by omega⟩
  exact lost_session_socket_first (.serveN k false) rfl s hg hcase f

/-- a silent peer, limit `n > 0`: exactly the `n`-th consecutive timed-out request ends the
    session with `WaitAfterDisconnect`; the commands behind it stay queued -/
theorem silent_session_ends_after_maxto (n : Nat) (hn : 0 < n) (ids : List Nat)
    (hlen : ids.length = n) (rest : List Cmd) (s : S) (hm : s.maxto = n) (ht : s.tcount = 0)
    (hq : s.queue = ids.map Cmd.request ++ rest) (fuel : Nat) (hf : n ≤ fuel) :
    advance fuel (.session .silent) s =
      ({ s with queue := rest, tcount := n, log := s.log ++ timeoutEvents ids,
                conn := false, unreported := true },
        .gate (.waitDisc (Retry.afterDisconnect s.retry)) .failFor) := by
  obtain ⟨init, last, rfl⟩ : ∃ init last, ids = init ++ [last] := by
    rcases List.eq_nil_or_concat ids with rfl | ⟨i, l, rfl⟩
    · simp at hlen; omega
    · exact ⟨i, l, by simp⟩
  simp only [List.length_append, List.length_cons, List.length_nil] at hlen
  obtain ⟨k, rfl⟩ : ∃ k, fuel = init.length + (k + 1) := ⟨fuel - init.length - 1, by omega⟩
  rw [advance_silent_below init (.request last :: rest) s (k + 1) (by simp [hq])
    (by right; omega)]
  rw [advance_silent_limit last rest _ k rfl (by simp only []; omega) (by simp only []; omega)]
  simp [timeoutEvents, ht, ← hlen]

/-- … and fewer than `n` timeouts do not end it: the task idles in the session. -/
theorem silent_session_survives (ids : List Nat) (s : S) (hlt : s.tcount + ids.length < s.maxto)
    (hh : s.handles = true) (hq : s.queue = ids.map Cmd.request) (k : Nat) :
    advance (ids.length + (k + 1)) (.session .silent) s =
      ({ s with queue := [], tcount := s.tcount + ids.length, log := s.log ++ timeoutEvents ids },
        .idle (.session .silent)) := by
  rw [advance_silent_below ids [] s (k + 1) (by simp [hq]) (Or.inr hlt), advance_succ]
  simp [step, hh, Res.fin]

/-- Disabled after a disable: processed while connecting, connected or waiting to reconnect, the
    command takes the task to the announcement of `Disabled` with no event in between; leaving
    the session phase drops the connection (`closeConn`) -/
theorem disable_leads_to_disabled (ph : Phase)
    (hph : ph = .connect ∨ ph = .failFor ∨ ph = .session .serve ∨ ph = .session .silent)
    (s : S) (q : List Cmd) (hq : s.queue = .disable :: q) (fuel : Nat) :
    advance (fuel + 2) ph s =
      ({ (if ph = .connect ∨ ph = .failFor then s else s.closeConn) with
          queue := q, enabled := false }, .gate .disabled .waitEnabled) := by
  rcases hph with rfl | rfl | rfl | rfl <;>
    simp [advance_succ, step, hq, Res.fin]

/-- in `wait_for_enabled` (already disabled) a `Disable` is a no-op: it is consumed and the task
    carries on exactly as if it had not been there -/
theorem disable_noop_when_disabled (s : S) (q : List Cmd) (hq : s.queue = .disable :: q)
    (he : s.enabled = false) (fuel : Nat) :
    advance (fuel + 1) .waitEnabled s = advance fuel .waitEnabled { s with queue := q } := by
  simp [advance_succ, step, hq, he, Res.fin]

/-- a `Disable` behind requests / redundant enables / decode-level changes while not connected:
    those are answered (noconn) / ignored / applied, then `Disabled` is announced; nothing else
    happens in between -/
theorem disable_after_requests (ph : Phase) (hph : ph = .connect ∨ ph = .failFor) (s : S)
    (pre q : List Cmd) (hpre : ∀ c ∈ pre, benign c = true) (hq : s.queue = pre ++ .disable :: q)
    (fuel : Nat) (hf : pre.length + 2 ≤ fuel) :
    advance fuel ph s =
      ({ s with queue := q, enabled := false, log := s.log ++ noconnEvents pre,
                decode := decodeAfter s.decode pre },
        .gate .disabled .waitEnabled) := by
  obtain ⟨k, rfl⟩ : ∃ k, fuel = pre.length + (k + 2) := ⟨fuel - pre.length - 2, by omega⟩
  have hp : ∀ c ∈ pre, passes ph c = true := by rcases hph with rfl | rfl <;> exact hpre
  have he : ph = .waitEnabled → s.enabled = false := by rcases hph with rfl | rfl <;> nofun
  rw [advance_passes ph pre (.disable :: q) s (k + 2) hp he hq]
  rw [disable_leads_to_disabled ph (by rcases hph with rfl | rfl <;> simp) _ q rfl k]
  rcases hph with rfl | rfl <;> simp

/-- … which also closes an open connection, at the level of stops: the listener sees `Disabled`
    at the next stop -/
theorem disable_closes_connection (s : S) (hq : s.queue = []) (hh : s.handles = true)
    (acts : List Action) :
    stop s (.idle (.session .serve)) [.disable] =
      ({ s with log := s.log ++ [.idle, .act .disable], enabled := false,
                conn := false, unreported := true },
        .gate .disabled .waitEnabled) ∧
    states (stop { s with log := s.log ++ [.idle, .act .disable], enabled := false,
                          conn := false, unreported := true }
      (.gate .disabled .waitEnabled) acts).1.log = states s.log ++ [.disabled] := by
  constructor
  · rw [stop_session_end .disable rfl .serve rfl s rfl hq hh]
    rfl
  · rw [stop_gate_states]
    simp [show states [Ev.idle, Ev.act Action.disable] = [] from rfl]

/-- Requests fail fast while not connected: what a call of `advance` in `waitEnabled`, `connect`
    or `failFor` consumed is a prefix of the queue, and the log grew by exactly one
    `done id "noconn"` per consumed request — every request dequeued while not connected is
    completed with noconn in the same call, no other completion is produced —; and unless the call
    ended at one of the three state-change gates `Disabled`, `Connecting`, `Shutdown`, the whole
    queue was consumed: nothing is left queued and every request that was queued has its noconn
    completion.
    The three gates cannot be left out.  "Unless the call ended at a Shutdown gate, no request
    remains in the returned queue" is false in the model and, by reading, in the code: queue
    `[disable, request 1]` in `connect` ends at the `Disabled` gate with `request 1` still queued
    (`ClientLoop::fail_requests` returns at the first `Disable`, and
    `TcpChannelTask::run_inner` awaits `listener.update(Disabled)` before the queue is read
    again); it fails with noconn right after the callback returns.  Likewise
    `[enable, request 1]` in `waitEnabled` ends at the `Connecting` gate.  The listener callback
    is the only place where the task stops with requests pending. -/
theorem fail_fast (fuel : Nat) (ph : Phase) (s s' : S) (pos : Pos)
    (hph : ph = .waitEnabled ∨ ph = .connect ∨ ph = .failFor)
    (hf : fuel ≥ 2 * s.queue.length + 8) (h : advance fuel ph s = (s', pos)) :
    (∃ consumed, s.queue = consumed ++ s'.queue ∧ s'.log = s.log ++ noconnEvents consumed) ∧
    (pos ≠ .gate .shutdown .finished → pos ≠ .gate .disabled .waitEnabled →
      pos ≠ .gate .connecting .connect →
      s'.queue = [] ∧ ∀ id, Cmd.request id ∈ s.queue → Ev.done id "noconn" ∈ s'.log) := by
  have hnc : notConnected ph = true := by rcases hph with rfl | rfl | rfl <;> rfl
  obtain ⟨hc, hd⟩ := advance_failFast fuel ph s hnc (by have := need_le ph; omega)
  rw [h] at hc hd
  refine ⟨hc, ?_⟩
  intro h1 h2 h3
  have hq : s'.queue = [] := hd.resolve_left fun hg => by
    rcases changeGate_cases hg with rfl | rfl | rfl <;> contradiction
  refine ⟨hq, ?_⟩
  intro id hid
  obtain ⟨consumed, (hc1 : s.queue = consumed ++ s'.queue), (hc2 : s'.log = _)⟩ := hc
  rw [hq, List.append_nil] at hc1
  rw [hc2, ← hc1]
  exact List.mem_append_right _ (mem_noconnEvents id _ hid)

/-- the plain case, only requests queued: one call of `advance` answers every one of them with
    noconn, in order; no request waits for a connection -/
theorem fail_fast_requests_only (ph : Phase) (s : S) (ids : List Nat)
    (hph : (ph = .waitEnabled ∧ s.enabled = false) ∨ ph = .connect ∨ ph = .failFor)
    (hq : s.queue = ids.map Cmd.request) (fuel : Nat) (hf : fuel ≥ 2 * s.queue.length + 8) :
    (advance fuel ph s).1.queue = [] ∧
    (advance fuel ph s).1.log = s.log ++ ids.map (fun id => Ev.done id "noconn") := by
  have hlen : s.queue.length = ids.length := by simp [hq]
  obtain ⟨k, rfl⟩ : ∃ k, fuel = (ids.map Cmd.request).length + (k + 2) :=
    ⟨fuel - ids.length - 2, by simp; omega⟩
  have hp : ∀ c ∈ ids.map Cmd.request, passes ph c = true := by
    intro c hc
    obtain ⟨i, _, rfl⟩ := List.mem_map.1 hc
    rcases hph with ⟨rfl, _⟩ | rfl | rfl <;> rfl
  have he : ph = .waitEnabled → s.enabled = false := by
    rcases hph with ⟨_, he⟩ | rfl | rfl <;> first | exact fun _ => he | nofun
  rw [advance_passes ph (ids.map Cmd.request) [] s (k + 2) hp he (by simp [hq]), decodeAfter_requests,
    noconnEvents_requests]
  -- nothing is left to consume
  obtain ⟨⟨c, hc1, hc2⟩, _⟩ := advance_failFast (k + 2) ph
    { s with queue := [], log := s.log ++ ids.map (fun id => Ev.done id "noconn") }
    (by rcases hph with ⟨rfl, _⟩ | rfl | rfl <;> rfl)
    (by have := need_le ph; simp only [List.length_nil]; omega)
  simp only [core] at hc1 hc2
  obtain ⟨rfl, hq'⟩ := List.append_eq_nil_iff.1 hc1.symm
  exact ⟨hq', by simpa using hc2⟩

/-- "instead of queueing": no request submitted while there was no connection is ever carried
    over into a connection -/
theorem no_request_survives_to_connected (s0 : S) (h0 : Initial s0)
    (script : List (List Action)) (s : S) (next : Phase)
    (h : run s0 script = (s, .gate .connected next)) : s.queue = [] :=
  (Reachable.runQ ⟨s0, script, h0, h⟩).pos.connected rfl

/-- the task never sleeps on a command.  In particular the fuel `stop` hands to `advance` is
    never exhausted in a run, so every `idle` event of the model is a genuine await of the task
    (the queue, the socket or the retry timer: the only places where time passes). -/
theorem never_sleeps_on_requests (s0 : S) (h0 : Initial s0) (script : List (List Action))
    (s : S) (ph : Phase) (h : run s0 script = (s, .idle ph)) : s.queue = [] :=
  (Reachable.ok ⟨s0, script, h0, h⟩).2

/-- shutdown or dropping all handles ends the task from every state: `termBound s = 3·len + 6`
    empty stops (`len` the queue length at that position) are enough, whatever is queued and
    whatever the peer does; `Shutdown` has then been announced exactly once, last, and every
    request ever submitted has been completed as often as it was submitted -/
theorem shutdown_from_anywhere (s : S) (pos : Pos) (hr : Reachable s pos) (a : Action)
    (ha : a = .shutdown ∨ a = .dropAll) (n : Nat) (hn : termBound s ≤ n) :
    (runStops s pos ([a] :: List.replicate n [])).2 = .done ∧
    (runStops s pos ([a] :: List.replicate n [])).1.alive = false ∧
    (runStops s pos ([a] :: List.replicate n [])).1.queue = [] ∧
    (states (runStops s pos ([a] :: List.replicate n [])).1.log).count .shutdown = 1 ∧
    (states (runStops s pos ([a] :: List.replicate n [])).1.log).getLast? = some .shutdown ∧
    legalLog (runStops s pos ([a] :: List.replicate n [])).1.log = true ∧
    (∀ id, submitted id (runStops s pos ([a] :: List.replicate n [])).1.log =
      completed id (runStops s pos ([a] :: List.replicate n [])).1.log) := by
  have hdone := runStops_kill s pos a ha hr.ok n hn
  have hr' := hr.runStops ([a] :: List.replicate n [])
  obtain ⟨hpath, hinv⟩ := hr'.runQ
  have hacc := hr'.runAcc
  generalize runStops s pos ([a] :: List.replicate n []) = r at *
  obtain ⟨s', pos'⟩ := r
  simp only [] at hdone
  subst hdone
  obtain ⟨(hlast : (states s'.log).getLast? = _), halive, (hqueue : s'.queue = [])⟩ := hinv
  have hcount : (states s'.log).count .shutdown ≤ 1 := (legalPath_shutdown_last _ hpath.2).1
  have hpos := List.count_pos_iff.2 (List.mem_of_getLast? hlast)
  refine ⟨rfl, halive, hqueue, Nat.le_antisymm hcount hpos, hlast, legalLog_of _ hpath.1 hpath.2, ?_⟩
  intro id
  have : submitted id s'.log = completed id s'.log + queued id s'.queue := hacc id
  rw [hqueue] at this
  simpa using this

/-- a position to which `shutdown_from_anywhere` applies; here two empty stops, fewer than
    `termBound`, end the task -/
example : (runStops (run { retry := Retry.create 30 120, behaviours := [.silent] }
      [[.enable], [], [.request 1, .request 2]]).1
    (run { retry := Retry.create 30 120, behaviours := [.silent] }
      [[.enable], [], [.request 1, .request 2]]).2
    ([.shutdown] :: List.replicate 2 [])).2 = .done := by decide +kernel

/-- the task's last act: every request still queued is completed with `shutdown` (the `Promise`
    is dropped), nothing else is logged -/
theorem finished_flushes (s : S) (fuel : Nat) :
    advance (fuel + 1) .finished s = ({ flush s with queue := [], alive := false }, .done) ∧
    (flush s).log = s.log ++ shutdownEvents s.queue ∧
    (∀ id, completed id (flush s).log = completed id s.log + queued id s.queue) :=
  ⟨by simp [advance_succ, step, Res.fin], by rw [flush_eq],
    fun id => by rw [flush_eq, completed_append, completed_shutdownEvents]⟩

/-- Shutdown is final: whatever the handles do afterwards, the ONLY thing that happens is what
    `afterEvents` lists; in particular nothing is ever queued again and nothing is announced -/
theorem done_is_final (s : S) (script : List (List Action)) :
    runStops s .done script =
      ({ s with log := s.log ++ afterEvents s.handles script.flatten,
                handles := s.handles && !script.flatten.contains .dropAll }, .done) := by
  rw [runStops_done_eq, foldl_applyDone_eq]

/-- … and while a handle is left every request of the script IS submitted (hence, by
    `afterEvents_exactly_once` and `afterEvents_quiet`, completed with `shutdown` exactly once) -/
theorem afterEvents_submitted (acts : List Action) (hx : Action.dropAll ∉ acts) (id : Nat) :
    submitted id (afterEvents true acts) = acts.count (.request id) := by
  induction acts with
  | nil => simp [afterEvents, submitted]
  | cons a acts ih =>
    have hx' : Action.dropAll ∉ acts := fun h => hx (List.mem_cons_of_mem _ h)
    have ih := ih hx'
    cases a <;>
      simp only [afterEvents, submitted, List.count_cons, List.count_nil] at ih ⊢ <;>
      simp_all

/-- after `Shutdown` every handle reports shutdown: `shutdown_from_anywhere`, then whatever the
    handles do (`script`) the log grows by exactly `afterEvents` — requests complete with
    `shutdown`, exactly once each, every other call is refused with `shutdown` — and no state is
    announced any more -/
theorem after_shutdown_handles_report_shutdown (s : S) (pos : Pos) (hr : Reachable s pos)
    (a : Action) (ha : a = .shutdown ∨ a = .dropAll) (n : Nat) (hn : termBound s ≤ n)
    (script : List (List Action)) :
    let e := runStops s pos ([a] :: List.replicate n [])
    let r := runStops s pos (([a] :: List.replicate n []) ++ script)
    e.2 = .done ∧ r.2 = .done ∧
    r.1.log = e.1.log ++ afterEvents e.1.handles script.flatten ∧
    states r.1.log = states e.1.log ∧ (states r.1.log).getLast? = some .shutdown ∧
    r.1.alive = false ∧ r.1.queue = [] ∧
    (∀ id, submitted id r.1.log = completed id r.1.log) := by
  intro e r
  obtain ⟨hdone, halive, hqueue, _, hlast, _, hacc⟩ := shutdown_from_anywhere s pos hr a ha n hn
  have hr' : r = runStops e.1 e.2 script := runStops_append s pos _ script
  rw [show e.2 = .done from hdone, done_is_final] at hr'
  have hst : states r.1.log = states e.1.log := by
    rw [hr']
    exact states_append_quiet (afterEvents_quiet _ _)
  refine ⟨hdone, by rw [hr'], by rw [hr'], hst, by rw [hst]; exact hlast,
    by rw [hr']; exact halive, by rw [hr']; exact hqueue, fun id => ?_⟩
  rw [hr']
  simp only [submitted_append, completed_append, afterEvents_exactly_once]
  exact congrArg (· + _) (hacc id)

/-- conservation: submitted (through a live handle) = completed + still queued -/
theorem conservation (s0 : S) (h0 : Initial s0) (script : List (List Action)) (id : Nat) :
    submitted id (run s0 script).1.log =
      completed id (run s0 script).1.log + queued id (run s0 script).1.queue :=
  Reachable.runAcc (pos := (run s0 script).2) ⟨s0, script, h0, rfl⟩ id

/-- exactly once, at the task level: a request id that occurs at most once in the script is
    never both completed and still queued, nor completed twice -/
theorem exactly_once (s0 : S) (h0 : Initial s0) (script : List (List Action)) (id : Nat)
    (hid : script.flatten.count (.request id) ≤ 1) :
    completed id (run s0 script).1.log + queued id (run s0 script).1.queue ≤ 1 := by
  have h1 := conservation s0 h0 script id
  have h2 := runStops_submitted id script (start s0).1 (start s0).2
  have h3 : submitted id (start s0).1.log = 0 := by simp [start, h0.log, submitted]
  unfold run at h1 ⊢
  omega

/-! `Initial s0` says nothing about `s0.coins`: every theorem above over initial states or over
  reachable positions holds for EVERY list of scheduler coins, i.e. for every way the races
  between the peer's EOF / garbage and the command queue can resolve.  Spelled out: -/

theorem initial_coins (s0 : S) (h0 : Initial s0) (coins : List Bool) :
    Initial { s0 with coins := coins } := h0

theorem legal_path_every_resolution (s0 : S) (h0 : Initial s0) (coins : List Bool)
    (script : List (List Action)) :
    legalLog (run { s0 with coins := coins } script).1.log = true :=
  legal_path _ (initial_coins s0 h0 coins) script

theorem conservation_every_resolution (s0 : S) (h0 : Initial s0) (coins : List Bool)
    (script : List (List Action)) (id : Nat) :
    submitted id (run { s0 with coins := coins } script).1.log =
      completed id (run { s0 with coins := coins } script).1.log +
        queued id (run { s0 with coins := coins } script).1.queue :=
  conservation _ (initial_coins s0 h0 coins) script id

theorem exactly_once_every_resolution (s0 : S) (h0 : Initial s0) (coins : List Bool)
    (script : List (List Action)) (id : Nat) (hid : script.flatten.count (.request id) ≤ 1) :
    completed id (run { s0 with coins := coins } script).1.log +
      queued id (run { s0 with coins := coins } script).1.queue ≤ 1 :=
  exactly_once _ (initial_coins s0 h0 coins) script id hid

theorem shutdown_from_anywhere_every_resolution (s0 : S) (h0 : Initial s0) (coins : List Bool)
    (script : List (List Action)) (a : Action) (ha : a = .shutdown ∨ a = .dropAll) (n : Nat)
    (hn : termBound (run { s0 with coins := coins } script).1 ≤ n) :
    (runStops (run { s0 with coins := coins } script).1 (run { s0 with coins := coins } script).2
      ([a] :: List.replicate n [])).2 = .done :=
  (shutdown_from_anywhere _ _ ⟨_, script, initial_coins s0 h0 coins, rfl⟩ a ha n hn).1

/-- the race is real in the model: the same script, two coin lists, two different paths (harness
    case `life r30.120 m0 t100 close/serve E,-,D,-,-`): the peer's EOF first —
    `WaitAfterDisconnect`, then the queued `Disable` —, or the `Disable` first -/
example :
    states (run { retry := Retry.create 30 120, behaviours := [.close, .serve], coins := [true] }
      [[.enable], [], [.disable], [], []]).1.log =
      [.disabled, .connecting, .connected, .waitDisc 30, .disabled] ∧
    states (run { retry := Retry.create 30 120, behaviours := [.close, .serve], coins := [false] }
      [[.enable], [], [.disable], [], []]).1.log =
      [.disabled, .connecting, .connected, .disabled] := by decide +kernel

/-- C14, reset on success: from the announcement of `Connected` on, whatever happens in the
    session, the strategy is in its reset state when the task blocks next -/
theorem retry_reset_on_connect (s : S) (b : Behaviour) (acts : List Action) :
    (stop s (.gate .connected (.sessionStart b)) acts).1.retry = Retry.reset s.retry := by
  obtain ⟨l, q, h, hf⟩ := foldl_applyAction_frame acts (s.report.emit (.gate .connected))
  simp only [stop, fuelFor_succ]
  rw [advance_sessionStart_retry, hf]
  simp [report_eq]

/-- the announced delays follow the strategy: the first `fs.length` attempts fail — refused
    connects and (TLS) connects followed by a failed handshake, in any order —, then one succeeds;
    the user enables the channel and does nothing else.  A TCP connect that succeeds does NOT
    restart the sequence, only a fully established connection does; after `Connected` the
    strategy is back in its initial state (`restart_after_success`).  `mx ≤ DURATION_MAX`: the cap
    is a representable `Duration`. -/
theorem announced_delays_follow_strategy_failures (mn mx : Nat) (hmx : mx ≤ Retry.DURATION_MAX)
    (fs : List Behaviour) (hfs : ∀ x ∈ fs, x.fails = true) (b : Behaviour) (hb : b.fails = false)
    (s0 : S) (h0 : Initial s0) (hr : s0.retry = Retry.create mn mx)
    (hbs : s0.behaviours = fs ++ [b]) :
    states (run s0 ([.enable] :: List.replicate (2 * fs.length + 2) [])).1.log =
      .disabled ::
        ((List.range fs.length).flatMap
          fun i => [.connecting, .waitFail (Nat.min (mn * 2 ^ i) mx)]) ++
        [.connecting, .connected] ∧
    (run s0 ([.enable] :: List.replicate (2 * fs.length + 2) [])).1.retry =
      Retry.create mn mx := by
  -- the first stop: `Disabled` is seen, the channel is enabled, the task enters the loop
  have h1 : stop (start s0).1 (start s0).2 [.enable] =
      advance (8 + 1) .waitEnabled
        { s0 with log := [.gate .disabled, .act .enable], enabled := true } := by
    simp [start, stop, applyAction, h0.handles, h0.queue, h0.log, fuelFor, advance_succ, step,
      h0.enabled, Res.fin, S.emit, report_of_false s0 h0.unreported]
  obtain ⟨s', hloop, hs, hret⟩ := reconnect_loop_fails b hb fs
    { s0 with log := [.gate .disabled, .act .enable], enabled := true } 8 rfl h0.queue h0.handles
    h0.unreported hfs hbs
  unfold run
  rw [runStops_cons, show 2 * fs.length + 2 = (2 * fs.length + 1) + 1 from rfl,
    List.replicate_succ', runStops_append, h1, hloop]
  -- the last stop: `Connected` is seen, the session starts with the reset
  simp only [runStops]
  constructor
  · rw [stop_gate_states, hs, hr, C14.kth_delay_created mn mx hmx, failEvents, List.flatMap_map]
    simp [states]
  · rw [retry_reset_on_connect, hret, hr]
    have := retryAfter_min_max fs.length (Retry.create mn mx)
    simp only [Retry.reset, this.1, this.2]
    rfl

/-- … with `k` refused connects -/
theorem announced_delays_follow_strategy (mn mx : Nat) (hmx : mx ≤ Retry.DURATION_MAX)
    (k : Nat) (b : Behaviour) (hb : b ≠ .refuse) (hb' : b ≠ .hsfail) (s0 : S) (h0 : Initial s0)
    (hr : s0.retry = Retry.create mn mx)
    (hbs : s0.behaviours = List.replicate k .refuse ++ [b]) :
    states (run s0 ([.enable] :: List.replicate (2 * k + 2) [])).1.log =
      .disabled ::
        ((List.range k).flatMap fun i => [.connecting, .waitFail (Nat.min (mn * 2 ^ i) mx)]) ++
        [.connecting, .connected] ∧
    (run s0 ([.enable] :: List.replicate (2 * k + 2) [])).1.retry = Retry.create mn mx := by
  have hbf : b.fails = false := by cases b <;> simp_all
  have := announced_delays_follow_strategy_failures mn mx hmx (List.replicate k .refuse)
    (fun x hx => by rw [List.eq_of_mem_replicate hx]; rfl) b hbf s0 h0 hr hbs
  simpa using this

/-- … and with `k` failed TLS handshakes: a reachable host whose handshake keeps failing is
    backed off from exactly like one that refuses -/
theorem announced_delays_follow_strategy_tls (mn mx : Nat) (hmx : mx ≤ Retry.DURATION_MAX)
    (k : Nat) (b : Behaviour) (hb : b.fails = false) (s0 : S) (h0 : Initial s0)
    (hr : s0.retry = Retry.create mn mx)
    (hbs : s0.behaviours = List.replicate k .hsfail ++ [b]) :
    states (run s0 ([.enable] :: List.replicate (2 * k + 2) [])).1.log =
      .disabled ::
        ((List.range k).flatMap fun i => [.connecting, .waitFail (Nat.min (mn * 2 ^ i) mx)]) ++
        [.connecting, .connected] ∧
    (run s0 ([.enable] :: List.replicate (2 * k + 2) [])).1.retry = Retry.create mn mx := by
  have := announced_delays_follow_strategy_failures mn mx hmx (List.replicate k .hsfail)
    (fun x hx => by rw [List.eq_of_mem_replicate hx]; rfl) b hb s0 h0 hr hbs
  simpa using this

/-- the sequence restarts at `min` after a reset, whatever the state was before -/
theorem restart_after_success (d : Retry.Doubling) (hmax : d.max ≤ Retry.DURATION_MAX) (j : Nat) :
    Retry.failures (Retry.reset d) j =
      (List.range j).map (fun i => Nat.min (d.min * 2 ^ i) d.max) :=
  C14.kth_delay_after_reset d hmax j

/-- after a lost connection the wait is `min`, whatever failures came before -/
theorem lost_connection_delay_is_min (r : Retry.Doubling) (k : Nat) :
    Retry.afterDisconnect (Retry.reset (retryAfter r k)) = r.min := by
  simp [Retry.afterDisconnect, Retry.reset, (retryAfter_min_max k r).1]

/-- The delay announced is the delay waited: what the model can say (real time is abstracted).
    The phase after the announcement of a wait state is `failFor`.  From there, with the channel
    enabled:
    * if only requests / redundant enables are queued and a handle is alive, the timer branch is
      taken: the requests fail with noconn and the next gate is `Connecting`;
    * `Connecting` is reached **only** that way: if the call ends at the `Connecting` gate then
      no `Disable` / `Shutdown` was queued and a handle was alive;
    * in every case the call ends at `Connecting`, `Disabled` or `Shutdown` — no other state is
      announced between a wait state and the next `Connecting`.
    That the announced delay is the one handed to the timer is a fact about the code, not the
    model: `TcpChannelTask::handle_failed_connection` and `TcpChannelTask::run_connection` pass
    the same local `delay` to `listener.update(..)` and `fail_requests_for(..)`. -/
theorem wait_is_waited (s : S) (he : s.enabled = true) (fuel : Nat)
    (hf : s.queue.length + 2 ≤ fuel) :
    ((∀ c ∈ s.queue, benign c = true) → s.handles = true →
      (advance fuel .failFor s).2 = .gate .connecting .connect ∧
      (advance fuel .failFor s).1.queue = [] ∧
      (advance fuel .failFor s).1.log = s.log ++ noconnEvents s.queue) ∧
    ((advance fuel .failFor s).2 = .gate .connecting .connect →
      (∀ c ∈ s.queue, benign c = true) ∧ s.handles = true) ∧
    ((advance fuel .failFor s).2 = .gate .connecting .connect ∨
     (advance fuel .failFor s).2 = .gate .disabled .waitEnabled ∨
     (advance fuel .failFor s).2 = .gate .shutdown .finished) := by
  -- the queue is benign throughout, or a benign stretch is followed by a first `Disable` / `Shutdown`
  rcases benign_split s.queue with hb | ⟨pre, c, rest, hq, hpre, hc⟩
  · obtain ⟨k, rfl⟩ : ∃ k, fuel = s.queue.length + (k + 2) := ⟨fuel - s.queue.length - 2, by omega⟩
    rw [advance_passes .failFor s.queue [] s (k + 2) hb nofun (by simp)]
    cases hh : s.handles
    · simp [advance_succ, step, Res.fin]
    · -- the timer fires, the task dials
      simp only [advance_succ, step, he, Res.fin, Bool.not_true, Bool.false_eq_true, ↓reduceIte]
      rw [nextBehaviour_snd]
      simpa using hb
  · have hnb : ¬∀ x ∈ s.queue, benign x = true := fun h => by
      have := h c (by simp [hq])
      rcases hc with rfl | rfl <;> cases this
    have hl : pre.length + 2 ≤ fuel := by rw [hq] at hf; simp at hf; omega
    rcases hc with rfl | rfl
    · rw [disable_after_requests .failFor (Or.inr rfl) s pre rest hpre hq fuel hl]
      simp [hnb]
    · obtain ⟨k, rfl⟩ : ∃ k, fuel = pre.length + (k + 1) := ⟨fuel - pre.length - 1, by omega⟩
      rw [advance_passes .failFor pre (.shutdown :: rest) s (k + 1) hpre nofun hq]
      simp [advance_succ, step, Res.fin, hnb]

/-- at the callback of a wait state, with the peer's observation of the close pending: `closed`
    is logged in front of the state, and as soon as the callback returns the queued requests fail
    fast (`noconn`, in order) and `Connecting` is announced -/
theorem queued_fail_fast_at_wait_gate (s1 : S) (st : St) (ids : List Nat)
    (hq : s1.queue = ids.map Cmd.request) (he : s1.enabled = true) (hh : s1.handles = true)
    (hu : s1.unreported = true) :
    (stop s1 (.gate st .failFor) []).2 = .gate .connecting .connect ∧
    (stop s1 (.gate st .failFor) []).1.log =
      s1.log ++ [.closed, .gate st] ++ ids.map (fun i => Ev.done i "noconn") ∧
    (stop s1 (.gate st .failFor) []).1.queue = [] := by
  simp only [stop, List.foldl_nil]
  have hw := (wait_is_waited (s1.report.emit (.gate st)) (by simpa [report_eq] using he)
    (fuelFor (s1.report.emit (.gate st))) (by unfold fuelFor; omega)).1
    (by
      simp only [emit_queue, report_eq, hq]
      intro c hc
      obtain ⟨i, _, rfl⟩ := List.mem_map.1 hc
      rfl)
    (by simpa [report_eq] using hh)
  refine ⟨hw.1, ?_, hw.2.1⟩
  rw [hw.2.2]
  simp [report_eq, hu, hq, noconnEvents_requests]

/-- the connection is lost in the middle of a session with requests `id :: ids` queued: `id` is in
    flight and fails with the transport error, `WaitAfterDisconnect` is announced with the
    MINIMUM delay, and as soon as that callback returns `ids` fail fast — none of them waits for
    the next connection -/
theorem wait_after_lost_connection_mid_session (k : Nat) (s : S) (id : Nat) (ids : List Nat)
    (hq : s.queue = .request id :: ids.map Cmd.request) (hk : k ≤ s.served)
    (he : s.enabled = true) (hh : s.handles = true) (fuel : Nat) :
    (advance (fuel + 1) (.session (.serveN k true)) s).2 =
      .gate (.waitDisc s.retry.min) .failFor ∧
    (advance (fuel + 1) (.session (.serveN k true)) s).1.log = s.log ++ [.done id "io.eof"] ∧
    (advance (fuel + 1) (.session (.serveN k true)) s).1.conn = false ∧
    (advance (fuel + 1) (.session (.serveN k true)) s).1.queue = ids.map Cmd.request ∧
    (stop (advance (fuel + 1) (.session (.serveN k true)) s).1
        (.gate (.waitDisc s.retry.min) .failFor) []).2 = .gate .connecting .connect ∧
    (stop (advance (fuel + 1) (.session (.serveN k true)) s).1
        (.gate (.waitDisc s.retry.min) .failFor) []).1.log =
      s.log ++ [.done id "io.eof", .closed, .gate (.waitDisc s.retry.min)] ++
        ids.map (fun i => Ev.done i "noconn") ∧
    (stop (advance (fuel + 1) (.session (.serveN k true)) s).1
        (.gate (.waitDisc s.retry.min) .failFor) []).1.queue = [] := by
  rw [wait_after_lost_connection_in_flight k s id _ hq hk fuel]
  have h := queued_fail_fast_at_wait_gate
    { s with queue := ids.map Cmd.request, log := s.log ++ [.done id "io.eof"], conn := false,
             unreported := true }
    (.waitDisc s.retry.min) ids rfl he hh rfl
  exact ⟨rfl, rfl, rfl, rfl, h.1, by rw [h.2.1]; simp, h.2.2⟩

/-- `set_decode_level` changes the decode level and nothing else: in every phase in which the
    task reads its command queue the setting is consumed and the task carries on IN THE SAME
    PHASE as if the command had not been there -/
theorem decode_changes_only_decode (ph : Phase)
    (hph : ph = .waitEnabled ∨ ph = .connect ∨ ph = .failFor ∨ ph = .session .serve ∨
      ph = .session .silent)
    (s : S) (l : Nat) (q : List Cmd) (hq : s.queue = .decode l :: q)
    (he : ph = .waitEnabled → s.enabled = false) (fuel : Nat) :
    advance (fuel + 1) ph s = advance fuel ph { s with queue := q, decode := l } := by
  rcases hph with rfl | rfl | rfl | rfl | rfl
  · simp [advance_succ, step, hq, he rfl, Res.fin]
  all_goals simp [advance_succ, step, hq, Res.fin]

theorem foldl_setDecode (lvls : List Nat) (s : S) (hh : s.handles = true) :
    (lvls.map Action.setDecode).foldl applyAction s =
      { s with queue := s.queue ++ lvls.map Cmd.decode,
               log := s.log ++ lvls.map (fun l => Ev.act (.setDecode l)) } := by
  induction lvls generalizing s with
  | nil => simp
  | cons l lvls ih =>
    rw [List.map_cons, List.foldl_cons,
      show applyAction s (.setDecode l) =
        { s with queue := s.queue ++ [.decode l], log := s.log ++ [.act (.setDecode l)] } by
        simp [applyAction, hh, S.emit],
      ih _ (by exact hh)]
    simp [List.append_assoc]

/-- a disabled channel with nothing but requests, (redundant) disables and decode-level changes
    queued: `stop`'s fuel suffices to consume them all, then the task sleeps in `wait_for_enabled` -/
theorem drains_while_disabled (s : S) (he : s.enabled = false) (hh : s.handles = true)
    (hq : ∀ c ∈ s.queue, inert c = true) :
    advance (fuelFor s) .waitEnabled s =
      ({ s with queue := [], log := s.log ++ noconnEvents s.queue,
                decode := decodeAfter s.decode s.queue }, .idle .waitEnabled) := by
  rw [show fuelFor s = s.queue.length + (s.queue.length + 7 + 1) by simp only [fuelFor]; omega,
    advance_passes .waitEnabled s.queue [] s _ hq (fun _ => he) (by simp), advance_succ]
  simp [step, he, hh, Res.fin]

/-- … and never dials: on a disabled channel any number of `set_decode_level` calls leaves the
    task idle in `wait_for_enabled`; nothing is announced, the level is the last one set -/
theorem decode_level_never_dials (s : S) (pos : Pos)
    (hpos : pos = .idle .waitEnabled ∨ pos = .gate .disabled .waitEnabled)
    (he : s.enabled = false) (hh : s.handles = true) (hq : ∀ c ∈ s.queue, inert c = true)
    (lvls : List Nat) :
    (stop s pos (lvls.map .setDecode)).2 = .idle .waitEnabled ∧
    (stop s pos (lvls.map .setDecode)).1.enabled = false ∧
    (stop s pos (lvls.map .setDecode)).1.queue = [] ∧
    (stop s pos (lvls.map .setDecode)).1.decode =
      decodeAfter s.decode (s.queue ++ lvls.map Cmd.decode) ∧
    states (stop s pos (lvls.map .setDecode)).1.log =
      states s.log ++ (if pos = .idle .waitEnabled then [] else [.disabled]) := by
  -- after the callback / the idle event: the queued commands and the decode-level changes behind
  -- them are consumed in `wait_for_enabled`, then the task sleeps
  have key : ∀ (s1 : S), s1.enabled = false → s1.handles = true → s1.queue = s.queue →
      s1.decode = s.decode →
      (advance (fuelFor ((lvls.map Action.setDecode).foldl applyAction s1)) .waitEnabled
        ((lvls.map Action.setDecode).foldl applyAction s1)) =
        ({ s1 with queue := [], decode := decodeAfter s.decode (s.queue ++ lvls.map Cmd.decode),
                   log := s1.log ++ lvls.map (fun l => Ev.act (.setDecode l)) ++
                     noconnEvents (s.queue ++ lvls.map Cmd.decode) }, .idle .waitEnabled) := by
    intro s1 he1 hh1 hq1 hd1
    have hin : ∀ c ∈ s1.queue ++ lvls.map Cmd.decode, inert c = true := by
      intro c hc
      rcases List.mem_append.1 hc with h | h
      · exact hq c (hq1 ▸ h)
      · obtain ⟨l, _, rfl⟩ := List.mem_map.1 h
        rfl
    rw [foldl_setDecode lvls s1 hh1,
      drains_while_disabled _ (by exact he1) (by exact hh1) (by exact hin), hq1, hd1]
  rcases hpos with rfl | rfl
  · have h : stop s (.idle .waitEnabled) _ = _ := key (s.emit .idle) he hh rfl rfl
    exact ⟨by rw [h], by rw [h]; exact he, by rw [h], by rw [h], by rw [stop_idle_states]; simp⟩
  · have h : stop s (.gate .disabled .waitEnabled) _ = _ :=
      key (s.report.emit (.gate .disabled)) (by simpa [report_eq] using he)
        (by simpa [report_eq] using hh) (by simp [report_eq]) (by simp [report_eq])
    exact ⟨by rw [h], by rw [h]; simpa [report_eq] using he, by rw [h], by rw [h],
      by rw [stop_gate_states]; simp⟩

/-- an `Initial` state exists, for every strategy / behaviours / limit -/
example (r : Retry.Doubling) (bs : List Behaviour) (m : Nat) :
    Initial { retry := r, behaviours := bs, maxto := m } :=
  ⟨rfl, rfl, rfl, rfl, rfl, rfl, rfl, rfl⟩

/-- the fuel side conditions are satisfiable: `stop` always supplies enough -/
example (s : S) : s.queue.length + 2 ≤ fuelFor s ∧ fuelFor s ≥ 2 * s.queue.length + 8 := by
  unfold fuelFor; omega

/-- scenario 1 (harness: `g:Disabled;a:E;g:Connecting;g:Connected;idle;a:R1;done:R1:ok.4660;idle;
    a:D;closed;g:Disabled;idle;a:E;g:Connecting;g:Connected`): enable, one served request, disable,
    enable again, against a serving peer; the driver appends two empty stops. -/
example :
    (run { retry := Retry.create 30 120, behaviours := [.serve] }
      ([[.enable], [], [], [.request 1], [.disable], [], [.enable]] ++ [[], []])).1.log =
    [.gate .disabled, .act .enable, .gate .connecting, .gate .connected, .idle,
     .act (.request 1), .done 1 "ok.4660", .idle, .act .disable, .closed, .gate .disabled, .idle,
     .act .enable, .gate .connecting, .gate .connected] := by decide +kernel

/-- scenario 2 (harness: `g:Disabled;a:E;g:Connecting;g:WaitFail(30);g:Connecting;a:R1;
    done:R1:noconn;g:WaitFail(60);g:Connecting`): three refusals then a serving peer, retry
    30/120, a request submitted at the second `Connecting` gate fails with noconn. -/
example :
    (run { retry := Retry.create 30 120, behaviours := [.refuse, .refuse, .refuse, .serve] }
      ([[.enable], [], [], [.request 1]] ++ [[], []])).1.log =
    [.gate .disabled, .act .enable, .gate .connecting, .gate (.waitFail 30), .gate .connecting,
     .act (.request 1), .done 1 "noconn", .gate (.waitFail 60), .gate .connecting] := by decide +kernel

/-- the specification automaton accepts a legal path and rejects illegal ones -/
example : legalLog [.gate .disabled, .gate .connecting, .gate (.waitFail 30), .gate .connecting,
    .gate .connected, .gate (.waitDisc 30), .gate .shutdown] = true := by decide +kernel
example : legalLog [.gate .disabled, .gate .connected] = false := by decide +kernel
example : legalLog [.gate .disabled, .gate .shutdown, .gate .shutdown] = false := by decide +kernel

/-- `announced_delays_follow_strategy` instantiated: 1 s / 8 s, five refusals -/
example :
    states (run { retry := Retry.create 1 8, behaviours := List.replicate 5 .refuse ++ [.close] }
      ([.enable] :: List.replicate 12 [])).1.log =
    [.disabled, .connecting, .waitFail 1, .connecting, .waitFail 2, .connecting, .waitFail 4,
     .connecting, .waitFail 8, .connecting, .waitFail 8, .connecting, .connected] := by decide +kernel

/-- `silent_session_ends_after_maxto` instantiated: limit 2, three requests: the third stays
    queued and fails with noconn after the `WaitAfterDisconnect` gate -/
example :
    (run { retry := Retry.create 30 120, behaviours := [.silent], maxto := 2 }
      [[.enable], [], [], [.request 1, .request 2, .request 3], []]).1.log =
    [.gate .disabled, .act .enable, .gate .connecting, .gate .connected, .idle,
     .act (.request 1), .act (.request 2), .act (.request 3), .done 1 "timeout", .done 2 "timeout",
     .closed, .gate (.waitDisc 30), .done 3 "noconn"] := by decide +kernel

/-- every handle dropped in the middle of a session, behind a request submitted at the same stop
    (a stop `shutdown_from_anywhere` does not cover): the queued request is still served, then the
    task announces `Shutdown` and ends -/
example :
    (run { retry := Retry.create 30 120, behaviours := [.serve] }
      [[.enable], [], [], [.request 1, .dropAll], []]).2 = .done ∧
    (run { retry := Retry.create 30 120, behaviours := [.serve] }
      [[.enable], [], [], [.request 1, .dropAll], []]).1.alive = false ∧
    (run { retry := Retry.create 30 120, behaviours := [.serve] }
      [[.enable], [], [], [.request 1, .dropAll], []]).1.log =
      [.gate .disabled, .act .enable, .gate .connecting, .gate .connected, .idle,
       .act (.request 1), .act .dropAll, .done 1 "ok.4660", .closed, .gate .shutdown] := by
  decide +kernel

/-- what `decode_level_never_dials` / `no_attempt_while_disabled` say, in a run (harness:
    `g:Disabled;a:L2;idle;a:L1;a:R1;done:R1:noconn;idle;a:E;g:Connecting;g:Connected`, stops
    `L2,L1+R,E`): decode levels set before the channel is enabled announce nothing; the channel
    dials only after the enable. -/
example :
    (run { retry := Retry.create 30 120, behaviours := [.serve] }
      [[.setDecode 2], [.setDecode 1, .request 1], [.enable], [], []]).1.log =
    [.gate .disabled, .act (.setDecode 2), .idle, .act (.setDecode 1), .act (.request 1),
     .done 1 "noconn", .idle, .act .enable, .gate .connecting, .gate .connected] ∧
    (run { retry := Retry.create 30 120, behaviours := [.serve] }
      [[.setDecode 2], [.setDecode 1, .request 1], [.enable], [], []]).1.decode = 1 := by decide +kernel

/-- … and after a disable: the decode level set while the channel is disabled again does not
    re-open the connection -/
example :
    states (run { retry := Retry.create 30 120, behaviours := [.serve] }
      [[.enable], [], [], [.disable], [.setDecode 3], [.setDecode 0], []]).1.log =
    [.disabled, .connecting, .connected, .disabled] := by decide +kernel

/-- the run of `announced_delays_follow_strategy_failures` with a TLS peer, continued past the
    first connection (harness:
    `tls:hsclose/refuse/hsgarbage/close/hsclose/hsclose/serve`, 10 ms / 80 ms): handshake fails,
    connect refused, handshake fails — 10, 20, 40 —, then the handshake succeeds and the
    connection is lost (`WaitAfterDisconnect 10`), and the next failures restart at 10. -/
example :
    states (run { retry := Retry.create 10 80,
                  behaviours := [.hsfail, .refuse, .hsfail, .close, .hsfail, .hsfail, .serve] }
      ([.enable] :: List.replicate 15 [])).1.log =
    [.disabled, .connecting, .waitFail 10, .connecting, .waitFail 20, .connecting, .waitFail 40,
     .connecting, .connected, .waitDisc 10, .connecting, .waitFail 10, .connecting, .waitFail 20,
     .connecting, .connected] := by decide +kernel

end Rodbus.C13
