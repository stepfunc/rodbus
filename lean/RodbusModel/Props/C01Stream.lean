import RodbusModel.Props.C05
import RodbusModel.Props.C06
import RodbusModel.Props.C01
import RodbusModel.Lemmas.ServerSession
/-
  C01 / C05 / C06 composed at stream level: what a server session writes, calls and ends with
  depends only on the byte stream it receives, not on how the transport cuts it into reads, and
  it is the reference server mapped over the frames of the whole-stream specification.
-/
namespace Rodbus.C01Stream

/-- whole-stream frames of a server-side stream -/
def specEvents : Framing → Bytes → List Event
  | .tcp, s => Mbap.specFrames s
  | .rtu, s => Rtu.specFrames .request s

theorem readerRun_eq_spec (fr : Framing) (chunks : List Bytes) :
    readerRun fr chunks = specEvents fr chunks.flatten := by
  cases fr with
  | tcp => exact chunking_independent chunks
  | rtu => exact C06.rtu_chunking_independent .request chunks

/-- the session's output is `handleFrame` (= the reference server, `C01.handleFrame_eq_spec`)
    folded over the frames of the whole-stream specification up to the first framing error -/
theorem stream_replies {σ : Type} (fr : Framing) (cfg : ServerCfg σ) (l : DecodeLevel)
    (hs : List (Nat × σ)) (chunks : List Bytes) :
    runSession fr cfg l hs (chunks.map SessStep.data ++ [.eof]) =
      handleEvents fr cfg .eof hs (specEvents fr chunks.flatten) := by
  unfold runSession
  rw [cutScript_data]
  simp only [cutScript, List.append_nil]
  rw [readerRun_eq_spec]

/-- two segmentations of the same stream give the same bytes
    written, the same application calls in the same order, the same final states and the same
    end of session -/
theorem session_chunking_independent {σ : Type} (fr : Framing) (cfg : ServerCfg σ)
    (l : DecodeLevel) (hs : List (Nat × σ)) (c₁ c₂ : List Bytes) (h : c₁.flatten = c₂.flatten) :
    runSession fr cfg l hs (c₁.map SessStep.data ++ [.eof]) =
      runSession fr cfg l hs (c₂.map SessStep.data ++ [.eof]) := by
  rw [stream_replies, stream_replies, h]

theorem handleEvents_uses_reference_server {σ : Type} (fr : Framing) (cfg : ServerCfg σ)
    (k : EndKind) (hs : List (Nat × σ)) (f : Frame) (rest : List Event) :
    handleEvents fr cfg k hs (.frame f :: rest) =
      (let o := Spec.Server.respond cfg hs f
       let r := handleEvents fr cfg k o.states rest
       ⟨(match o.reply with | some p => frameOut fr f p | none => []) ++ r.tx, o.calls ++ r.calls,
        r.states, r.ended⟩) := by
  show (let o := handleFrame cfg hs f
        let r := handleEvents fr cfg k o.states rest
        (⟨(match o.reply with | some p => frameOut fr f p | none => []) ++ r.tx, o.calls ++ r.calls,
          r.states, r.ended⟩ : SessOut σ)) = _
  rw [C01.handleFrame_eq_spec]

end Rodbus.C01Stream
