import RodbusModel.Spec.SerialLife
import RodbusModel.Props.C14
/-
  C14 for the serial client channel task (`SerialChannelTask::run`): for EVERY script of
  environment events the announced `PortState` sequence is the one of the counter specification
  (`run_eq_spec`), hence every announced delay follows the doubling discipline and restarts after
  every successful open, however the open port was closed later (`announced_delays_conform`,
  `restart_after_port_loss`, `restart_after_disable`); there is no open attempt while the channel
  is disabled (`no_open_while_disabled`); `Shutdown` is announced exactly once, last
  (`shutdown_final`), also when the task ends because every handle was dropped (event `dropAll`,
  `drop_all_ends_task`, `nothing_after_drop_all`).
-/
namespace Rodbus.C14Serial
open Rodbus.Retry Rodbus.SerialLife
open Rodbus.Spec.SerialLife (T Mode delay conforms)

def phaseOf : Mode → Phase
  | .disabled => .idle | .waiting => .waiting | .open_ => .session | .done => .finished

/-- the simulation relation: the strategy object holds `min(min · 2^k, max)`, `k` the number of
    failed opens since the last successful one -/
structure Sim (mn mx : Nat) (s : S) (t : T) : Prop where
  phase : s.phase = phaseOf t.mode
  present : s.present = t.present
  rmin : s.retry.min = mn
  rmax : s.retry.max = mx
  cur : s.retry.current = Nat.min (mn * 2 ^ t.k) mx
  en_idle : t.mode = .disabled → s.enabled = false
  en_wait : t.mode = .waiting → s.enabled = true
  en_open : t.mode = .open_ → s.enabled = true
  k_open : t.mode = .open_ → t.k = 0

theorem init_sim (mn mx : Nat) : Sim mn mx (init mn mx) {} := by
  constructor <;> simp [init, create, phaseOf]

/-- `Sim` on constructor terms, with the strategy in closed form -/
theorem sim_mk (mn mx : Nat) (en : Bool) (r : Doubling) (p tp : Bool) (ph : Phase) (m : Mode) (k : Nat) :
    Sim mn mx ⟨en, r, p, ph⟩ ⟨m, tp, k⟩ ↔
      ph = phaseOf m ∧ p = tp ∧ r = closed mn mx k ∧ (m = .disabled → en = false) ∧
      (m = .waiting → en = true) ∧ (m = .open_ → en = true ∧ k = 0) := by
  constructor
  · intro h
    exact ⟨h.phase, h.present, eq_closed h.rmin h.rmax h.cur, h.en_idle, h.en_wait,
      fun hm => ⟨h.en_open hm, h.k_open hm⟩⟩
  · rintro ⟨rfl, rfl, rfl, h4, h5, h6⟩
    exact ⟨rfl, rfl, rfl, rfl, rfl, h4, h5, fun hm => (h6 hm).1, fun hm => (h6 hm).2⟩

/-- one event: related states stay related and announce the same.  Both sides are evaluated on
    constructor terms; the only fact used is what a failed attempt does to the closed form. -/
theorem step_sim {mn mx : Nat} (hmax : mx ≤ DURATION_MAX) (s : S) (t : T) (e : Ev)
    (h : Sim mn mx s t) :
    Sim mn mx (step s e).1 (Spec.SerialLife.step mn mx t e).1 ∧
      (step s e).2 = (Spec.SerialLife.step mn mx t e).2 := by
  rcases s with ⟨en, r, pr, ph⟩
  rcases t with ⟨m, tp, k⟩
  obtain ⟨rfl, rfl, rfl, h4, h5, h6⟩ := (sim_mk ..).1 h
  have hf := afterFailedConnect_closed hmax mn k
  cases m
  case done => simpa [step, Spec.SerialLife.step, phaseOf] using h
  case disabled =>
    obtain rfl := h4 rfl
    cases e <;> cases pr <;>
      simp [step, Spec.SerialLife.step, Spec.SerialLife.attempt, loopTop, tryOpen, finish, phaseOf,
        sim_mk, hf, delay]
  case waiting =>
    obtain rfl := h5 rfl
    cases e <;>
      simp [step, Spec.SerialLife.step, Spec.SerialLife.attempt, loopTop, tryOpen, finish,
        disabledNow, phaseOf, sim_mk, hf, delay]
  case open_ =>
    obtain ⟨rfl, rfl⟩ := h6 rfl
    cases e <;> cases pr <;>
      simp [step, Spec.SerialLife.step, loopTop, finish, disabledNow, phaseOf, sim_mk]

theorem script_sim {mn mx : Nat} (hmax : mx ≤ DURATION_MAX) (es : List Ev) :
    ∀ (s : S) (t : T), Sim mn mx s t →
      Sim mn mx (after s es) (Spec.SerialLife.after mn mx t es) ∧
        outputs s es = Spec.SerialLife.outputs mn mx t es := by
  induction es with
  | nil => intro s t h; exact ⟨h, rfl⟩
  | cons e es ih =>
    intro s t h
    obtain ⟨h', ho⟩ := step_sim hmax s t e h
    obtain ⟨h'', ho'⟩ := ih _ _ h'
    refine ⟨by simpa [after, Spec.SerialLife.after] using h'', ?_⟩
    simp only [outputs, Spec.SerialLife.outputs, ho, ho']

/-- for every `(min, max)` with `max` representable and EVERY script the task
    announces exactly what the counter specification says: the delay after the k-th consecutive
    failed open since the last successful open (or since the start) is `min(min · 2^(k-1), max)`,
    the delay after a lost port is `min`. -/
theorem run_eq_spec (mn mx : Nat) (hmax : mx ≤ DURATION_MAX) (script : List Ev) :
    SerialLife.run mn mx script = Spec.SerialLife.run mn mx script := by
  unfold SerialLife.run Spec.SerialLife.run
  exact congrArg _ (script_sim hmax (script ++ [.shutdown]) _ _ (init_sim mn mx)).2

theorem reachable_sim (mn mx : Nat) (hmax : mx ≤ DURATION_MAX) (pre : List Ev) :
    Sim mn mx (after (init mn mx) pre) (Spec.SerialLife.after mn mx {} pre) :=
  (script_sim hmax pre _ _ (init_sim mn mx)).1

theorem Sim.session {mn mx : Nat} {s : S} {t : T} (h : Sim mn mx s t) (hs : s.phase = .session) :
    s.enabled = true ∧ s.retry = closed mn mx 0 := by
  rcases s with ⟨en, r, pr, ph⟩
  rcases t with ⟨m, tp, k⟩
  obtain ⟨rfl, _, rfl, _, _, h6⟩ := (sim_mk ..).1 h
  cases m <;> first | exact ⟨(h6 rfl).1, (h6 rfl).2 ▸ rfl⟩ | cases hs

theorem spec_done_outputs (mn mx : Nat) (es : List Ev) :
    ∀ t : T, t.mode = .done → Spec.SerialLife.outputs mn mx t es = [] := by
  induction es with
  | nil => intros; rfl
  | cons e es ih =>
    intro t h
    have h1 : Spec.SerialLife.step mn mx t e = (t, []) := by simp [Spec.SerialLife.step, h]
    simp [Spec.SerialLife.outputs, h1, ih t h]

/-- the checker's state after the outputs of one step can be read off the specification state -/
theorem spec_conforms_step (mn mx : Nat) (t : T) (e : Ev) (rest : List PortState)
    (hk : t.mode = .open_ → t.k = 0) :
    ∀ r, r = Spec.SerialLife.step mn mx t e → (r.1.mode = .done → rest = []) →
      conforms mn mx (t.mode == .open_) t.k (r.2 ++ rest) =
        conforms mn mx (r.1.mode == .open_) r.1.k rest ∧
      (r.1.mode = .open_ → r.1.k = 0) := by
  rintro _ rfl hd
  have hb : ∀ m : Mode, (m == .open_) = decide (m = .open_) := fun m => by cases m <;> rfl
  rcases t with ⟨m, p, k⟩
  -- the specification's `step` by mode, event and presence of the path (an attempt reads it); the
  -- checker is run over what is announced
  cases m
  case done => simp [Spec.SerialLife.step]
  case open_ =>
    obtain rfl : k = 0 := hk rfl
    cases e <;> simp [Spec.SerialLife.step, conforms, hb] at hd ⊢ <;> simp [hd, conforms]
  all_goals
    cases e <;> cases p <;>
      simp [Spec.SerialLife.step, Spec.SerialLife.attempt, conforms, hb] at hd ⊢ <;>
      simp [hd, conforms]

theorem spec_conforms (mn mx : Nat) (es : List Ev) :
    ∀ t : T, (t.mode = .open_ → t.k = 0) →
      conforms mn mx (t.mode == .open_) t.k (Spec.SerialLife.outputs mn mx t es) = true := by
  induction es with
  | nil => intros; rfl
  | cons e es ih =>
    intro t hk
    obtain ⟨h1, h2⟩ := spec_conforms_step mn mx t e (Spec.SerialLife.outputs mn mx _ es) hk _ rfl
      (spec_done_outputs mn mx es _)
    rw [Spec.SerialLife.outputs, h1]
    exact ih _ h2

/-- in the sequence announced for ANY script, every `Wait` that
    does not directly follow `Open` carries `min(min · 2^k, max)` where `k` is the number of such
    `Wait`s since the last `Open` (or since the start) - whatever happened in between (disable,
    enable, port loss); a `Wait` directly after `Open` carries `min`; nothing follows
    `Shutdown`. -/
theorem announced_delays_conform (mn mx : Nat) (hmax : mx ≤ DURATION_MAX) (script : List Ev) :
    conforms mn mx false 0 (SerialLife.run mn mx script) = true := by
  rw [run_eq_spec mn mx hmax]
  exact spec_conforms mn mx (script ++ [.shutdown]) {} nofun

theorem after_concat (s : S) (es : List Ev) (e : Ev) :
    after s (es ++ [e]) = (step (after s es) e).1 := by
  simp [after]

theorem outputs_append (s : S) (es fs : List Ev) :
    outputs s (es ++ fs) = outputs s es ++ outputs (after s es) fs := by
  induction es generalizing s with
  | nil => rfl
  | cons e es ih => simp [outputs, after, ih, List.append_assoc]

/-- while the path stays absent, an enabled waiting task announces the strategy's
    consecutive-failure delays (`Retry.failures`, the object of `C14.kth_delay`) -/
theorem waiting_failures (k : Nat) :
    ∀ s : S, s.phase = .waiting → s.enabled = true →
      outputs s (List.replicate k .absent) = (failures s.retry k).map PortState.wait := by
  induction k with
  | zero => intros; rfl
  | succ k ih =>
    intro s hp he
    have hs : step s .absent =
        ({ s with present := false, retry := (afterFailedConnect s.retry).2 },
          [.wait (afterFailedConnect s.retry).1]) := by
      simp [step, hp, loopTop, he, tryOpen]
    simp only [List.replicate_succ, outputs, hs, failures, List.map_cons, List.singleton_append]
    exact congrArg _ (ih { s with present := false, retry := (afterFailedConnect s.retry).2 } hp he)

/-- the delays of `k` consecutive failed opens counted from the restart -/
def restartWaits (mn mx k : Nat) : List PortState :=
  (List.range k).map fun i => PortState.wait (Nat.min (mn * 2 ^ i) mx)

/-- whatever script led to an open port, if the port is then lost
    the task announces `Wait(min)` and the following failed opens restart the doubling sequence:
    `min(min · 2^i, max)`, i = 0, 1, … -/
theorem restart_after_port_loss (mn mx : Nat) (hmax : mx ≤ DURATION_MAX) (pre : List Ev)
    (hopen : (after (init mn mx) pre).phase = .session) (k : Nat) :
    outputs (after (init mn mx) pre) (.lost :: List.replicate k .absent) =
      .wait mn :: restartWaits mn mx k := by
  obtain ⟨he, hr⟩ := (reachable_sim mn mx hmax pre).session hopen
  generalize after (init mn mx) pre = s at hopen he hr
  have hs : step s .lost = ({ s with present := false, phase := .waiting }, [.wait mn]) := by
    simp [step, hopen, hr]
  simp only [outputs, hs, List.singleton_append]
  rw [waiting_failures k { s with present := false, phase := .waiting } rfl he, hr, failures_closed hmax]
  simp [restartWaits, List.map_map, Function.comp_def]

/-- whatever script led to an open port, if the user then disables
    the channel (the port is closed without any error), the path disappears and the user enables
    the channel again, the failed opens restart the doubling sequence in the same way. -/
theorem restart_after_disable (mn mx : Nat) (hmax : mx ≤ DURATION_MAX) (pre : List Ev)
    (hopen : (after (init mn mx) pre).phase = .session) (k : Nat) :
    outputs (after (init mn mx) pre) (.disable :: .absent :: .enable :: List.replicate k .absent) =
      .disabled :: restartWaits mn mx (k + 1) := by
  obtain ⟨_, hr⟩ := (reachable_sim mn mx hmax pre).session hopen
  generalize after (init mn mx) pre = s at hopen hr
  -- the enable finds the path absent: the first failed open from the reset state, `k` more follow
  have h1 : outputs s [.disable, .absent, .enable] = [.disabled, .wait (Nat.min (mn * 2 ^ 0) mx)] ∧
      after s [.disable, .absent, .enable] = ⟨true, closed mn mx 1, false, .waiting⟩ := by
    simp [outputs, after, step, hopen, disabledNow, loopTop, tryOpen, hr, afterFailedConnect_closed hmax]
  rw [show Ev.disable :: .absent :: .enable :: List.replicate k .absent =
    [.disable, .absent, .enable] ++ List.replicate k .absent from rfl, outputs_append, h1.1, h1.2,
    waiting_failures k _ rfl rfl, failures_closed hmax]
  simp [restartWaits, List.range_succ_eq_map, List.map_map, Function.comp_def, Nat.add_comm 1]

/-- a disabled channel is blocked in `wait_for_enabled` (or the task is over) -/
def EnInv (s : S) : Prop := s.enabled = false → s.phase = .idle ∨ s.phase = .finished

theorem init_enInv (mn mx : Nat) : EnInv (init mn mx) := fun _ => Or.inl rfl

theorem step_enInv (s : S) (e : Ev) (h : EnInv s) : EnInv (step s e).1 := by
  rcases s with ⟨en, r, pr, ph⟩
  -- `step` by phase and event, then by what `loopTop` / `tryOpen` test: the flag is cleared by
  -- `disabledNow` only, whose `loopTop` then blocks in `idle`
  cases ph <;> cases e <;> simp_all [EnInv, step, loopTop, tryOpen, finish, disabledNow] <;>
    split <;> simp_all

theorem reachable_enInv (mn mx : Nat) (pre : List Ev) : EnInv (after (init mn mx) pre) :=
  List.foldlRecOn (motive := EnInv) pre _ (init_enInv mn mx) fun s h e _ => step_enInv s e h

/-- one event other than `enable` on a disabled channel: nothing but `Shutdown` is announced and
    the channel stays disabled - in particular the port is neither opened nor tried, whether the
    path exists or not -/
theorem disabled_step (s : S) (e : Ev) (hi : EnInv s) (hd : s.enabled = false) (he : e ≠ .enable) :
    (step s e).1.enabled = false ∧ ∀ p ∈ (step s e).2, p = .shutdown := by
  rcases s with ⟨en, r, pr, ph⟩
  simp only at hd
  subst hd
  -- disabled, the task is in `idle` or `finished` (`EnInv`): `step` by event in those two phases
  rcases hi rfl with h | h <;> simp only at h <;> subst h <;>
    cases e <;> simp_all [step, finish]

/-- after ANY script that leaves the channel disabled, as long as
    the user does not enable it nothing is announced except (possibly) `Shutdown`: no `Open` and
    no `Wait`, i.e. no open attempt, whatever happens to the device path meanwhile. -/
theorem no_open_while_disabled (mn mx : Nat) (pre evs : List Ev)
    (hd : (after (init mn mx) pre).enabled = false) (hne : ∀ e ∈ evs, e ≠ .enable) :
    ∀ p ∈ outputs (after (init mn mx) pre) evs, p = .shutdown := by
  have hi := reachable_enInv mn mx pre
  generalize after (init mn mx) pre = s at hi hd
  induction evs generalizing s with
  | nil => intro p hp; simp [outputs] at hp
  | cons e es ih =>
    intro p hp
    have he : e ≠ .enable := hne e (by simp)
    obtain ⟨h1, h2⟩ := disabled_step s e hi hd he
    simp only [outputs, List.mem_append] at hp
    rcases hp with hp | hp
    · exact h2 p hp
    · exact ih (fun e' h' => hne e' (by simp [h'])) _ (step_enInv s e hi) h1 p hp

theorem open_implies_enabled (mn mx : Nat) (hmax : mx ≤ DURATION_MAX) (pre : List Ev)
    (h : (after (init mn mx) pre).portOpen = true) : (after (init mn mx) pre).enabled = true :=
  ((reachable_sim mn mx hmax pre).session (by simpa [S.portOpen] using h)).1

theorem step_finished (s : S) (e : Ev) (h : s.phase = .finished) : step s e = (s, []) := by
  simp [step, h]

theorem finished_outputs (es : List Ev) : ∀ s : S, s.phase = .finished → outputs s es = [] := by
  induction es with
  | nil => intros; rfl
  | cons e es ih => intro s h; simp [outputs, step_finished s e h, ih s h]

/-- a running task: `shutdown` - and likewise dropping every handle - ends it with the
    announcement `Shutdown`, any other event announces something else and leaves it running -/
theorem step_running (s : S) (e : Ev) (h : s.phase ≠ .finished) :
    ((e = .shutdown ∨ e = .dropAll) ∧ (step s e).2 = [.shutdown] ∧
      (step s e).1.phase = .finished) ∨
    (e ≠ .shutdown ∧ e ≠ .dropAll ∧ PortState.shutdown ∉ (step s e).2 ∧
      (step s e).1.phase ≠ .finished) := by
  rcases s with ⟨en, r, pr, ph⟩
  -- `step` by phase and event, then by what `loopTop` / `tryOpen` test: `finish` is the arm of
  -- `shutdown` and `dropAll` in each running phase, and of nothing else
  cases ph <;> cases e <;> simp_all [step, loopTop, tryOpen, finish, disabledNow] <;>
    split <;> simp_all

theorem outputs_shutdown_last (es : List Ev) : ∀ s : S, s.phase ≠ .finished →
    ∃ l, outputs s (es ++ [.shutdown]) = l ++ [.shutdown] ∧ PortState.shutdown ∉ l := by
  induction es with
  | nil =>
    intro s h
    rcases step_running s .shutdown h with ⟨_, h2, _⟩ | ⟨h1, _⟩
    · exact ⟨[], by simp [outputs, h2], by simp⟩
    · exact absurd rfl h1
  | cons e es ih =>
    intro s h
    rcases step_running s e h with ⟨_, h2, h3⟩ | ⟨_, _, h2, h3⟩
    · exact ⟨[], by simp [outputs, h2, finished_outputs _ _ h3], by simp⟩
    · obtain ⟨l, hl, hn⟩ := ih _ h3
      exact ⟨(step s e).2 ++ l, by simp [outputs, hl], by simp [h2, hn]⟩

/-- for every script the announced sequence starts with `Disabled` and
    `Shutdown` is announced exactly once, as the last element. -/
theorem shutdown_final (mn mx : Nat) (script : List Ev) :
    ∃ l, SerialLife.run mn mx script = .disabled :: l ++ [.shutdown] ∧ PortState.shutdown ∉ l := by
  obtain ⟨l, hl, hn⟩ := outputs_shutdown_last script (init mn mx) (by simp [init])
  exact ⟨l, congrArg _ hl, hn⟩

/-- dropping every handle ends the task from every state it can be in
    (disabled, waiting, port open) exactly like the shutdown command: `Shutdown` is announced,
    nothing else, and the task is over. -/
theorem drop_all_ends_task (s : S) (h : s.phase ≠ .finished) :
    step s .dropAll = step s .shutdown ∧ (step s .dropAll).2 = [.shutdown] ∧
      (step s .dropAll).1.phase = .finished := by
  rcases s with ⟨en, r, pr, ph⟩
  cases ph <;> simp_all [step, finish]

/-- … and after ANY script that contains it nothing more is announced: whatever follows
    (commands cannot follow: there is no handle) -/
theorem nothing_after_drop_all (mn mx : Nat) (pre rest : List Ev) :
    (after (init mn mx) (pre ++ [.dropAll])).phase = .finished ∧
      outputs (after (init mn mx) (pre ++ [.dropAll])) rest = [] := by
  have hph : (after (init mn mx) (pre ++ [.dropAll])).phase = .finished := by
    rw [after_concat]
    by_cases h : (after (init mn mx) pre).phase = .finished
    · rw [step_finished _ _ h]; exact h
    · exact (drop_all_ends_task _ h).2.2
  exact ⟨hph, finished_outputs rest _ hph⟩

open Ev PortState in
/-- every handle dropped while waiting / while the port is open / while disabled -/
example : SerialLife.run 40 160 [enable, absent, dropAll, present, enable] =
    [disabled, wait 40, wait 80, shutdown] := by decide +kernel

open Ev PortState in
example : SerialLife.run 40 160 [present, enable, dropAll, lost] = [disabled, open_, shutdown] := by
  decide +kernel

open Ev PortState in
example : SerialLife.run 40 160 [dropAll, enable] = [disabled, shutdown] := by decide +kernel

open Ev PortState in
/-- two failures, a successful open, the user disables, the path disappears, the user enables:
    the delay is the minimum again -/
example : SerialLife.run 40 160 [enable, absent, present, disable, absent, enable, absent] =
    [disabled, wait 40, wait 80, open_, disabled, wait 40, wait 80, shutdown] := by decide +kernel

open Ev PortState in
/-- the same with a lost port: `Wait(min)` after the loss, then the restarted sequence, capped -/
example : SerialLife.run 40 100 [enable, absent, absent, present, lost, absent, absent, absent, absent] =
    [disabled, wait 40, wait 80, wait 100, open_, wait 40, wait 40, wait 80, wait 100, wait 100, shutdown] := by
  decide +kernel

open Ev PortState in
/-- nothing is tried while disabled, although the path exists; a second shutdown announces nothing -/
example : SerialLife.run 40 160 [present, pause, disable, absent, present, shutdown, enable] =
    [disabled, shutdown] := by decide +kernel

open Ev PortState in
/-- min > max: failed opens wait `max`, a lost port waits `min` (`after_disconnect` is not capped) -/
example : SerialLife.run 60 20 [enable, absent, present, lost, absent] =
    [disabled, wait 20, wait 20, open_, wait 60, wait 20, shutdown] := by decide +kernel

open Ev in
/-- the hypotheses of the restart theorems are satisfiable -/
example : (after (init 40 160) [enable, absent, present]).phase = .session := by decide +kernel

open Ev in
example : (after (init 40 160) [enable, present, disable]).enabled = false := by decide +kernel

/-- the check is not trivially true: the sequence of a task that does not reset the strategy on
    a successful open is rejected -/
example : conforms 40 160 false 0
    [.disabled, .wait 40, .wait 80, .open_, .disabled, .wait 160, .shutdown] = false := by decide +kernel

end Rodbus.C14Serial
