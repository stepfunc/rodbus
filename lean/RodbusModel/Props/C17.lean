import RodbusModel.Props.C08
import RodbusModel.Props.C01Session
/-
  C17  Multi-drop discipline (RTU server): a station answers only frames addressed to one of its
  configured unit ids; destination 0 is a broadcast — writes are applied to every configured unit
  and never answered, reads are ignored; on TCP unit id 0 is an ordinary unit id.

  `isBroadcast cfg f = (cfg.rtu && f.dest == 0)`: only the RTU frame parser produces
  `FrameDestination::Broadcast`.  Vocabulary as in C01 / C02.
-/
namespace Rodbus.C17
open Rodbus Rodbus.Spec.Server

theorem broadcast_iff {σ : Type} (cfg : ServerCfg σ) (f : Frame) :
    isBroadcast cfg f = true ↔ cfg.rtu = true ∧ f.dest = 0 := by
  simp [isBroadcast]

/-- A frame whose destination is neither a configured unit id nor the broadcast address is met with
    complete silence — no reply, no call, no state change — whatever its PDU: valid, malformed,
    unknown function or empty.  (No authorization handler: serial sessions have none.) -/
theorem silent_unless_addressed {σ : Type} (cfg : ServerCfg σ) (hs : List (Nat × σ)) (f : Frame)
    (hb : isBroadcast cfg f = false) (hl : lookupUnit hs f.dest = none) (ha : cfg.auth = none) :
    handleFrame cfg hs f = ⟨none, [], hs⟩ := by
  cases hreq : requestOf f with
  | none => rw [handleFrame_no_request cfg hs f hreq]; simp [hl]
  | some req =>
    rw [handleFrame_request cfg hs f hreq]
    simp [ServerCfg.allows, ServerCfg.question, ha, hb, hl]

theorem silent_unless_addressed_rtu {σ : Type} (cfg : ServerCfg σ) (hs : List (Nat × σ)) (f : Frame)
    (hd : f.dest ≠ 0) (hl : f.dest ∉ hs.map Prod.fst) (ha : cfg.auth = none) :
    handleFrame cfg hs f = ⟨none, [], hs⟩ :=
  silent_unless_addressed cfg hs f (by simp [isBroadcast, hd]) (lookupUnit_eq_none hl) ha

/-- a whole session of frames for other stations leaves no trace -/
theorem silent_session {σ : Type} (cfg : ServerCfg σ) (hs : List (Nat × σ)) (fs : List Frame)
    (ha : cfg.auth = none)
    (h : ∀ f ∈ fs, f.dest ≠ 0 ∧ f.dest ∉ hs.map Prod.fst) :
    runFrames cfg hs fs = ([], [], hs) := by
  have hf := fun f hf => silent_unless_addressed_rtu cfg hs f (h f hf).1 (h f hf).2 ha
  rw [runFrames_of_stable cfg hs fs fun f m => by rw [hf f m]]
  simp +contextual [hf]

/-- a broadcast is never answered, whatever it contains and whatever the handlers return -/
theorem broadcast_never_answered {σ : Type} (cfg : ServerCfg σ) (hs : List (Nat × σ)) (f : Frame)
    (hb : isBroadcast cfg f = true) : (handleFrame cfg hs f).reply = none := by
  have := C01.reply_iff_answerable cfg hs f
  simpa [C01.answerable, hb] using this

/-- A valid (and permitted) broadcast write is applied to every configured unit, one call each, in
    the order of the unit map; no reply; each unit's new state is whatever its handler returned —
    also when the handler raised an exception. -/
theorem broadcast_write {σ : Type} (cfg : ServerCfg σ) (hs : List (Nat × σ)) (f : Frame)
    (req : Request) (hrtu : cfg.rtu = true) (hd : f.dest = 0) (hreq : requestOf f = some req)
    (hw : isWrite req = true) (ha : cfg.allows f.dest req = true) :
    handleFrame cfg hs f =
      ⟨none, cfg.question f.dest req ++ (hs.map Prod.fst).flatMap (writeCalls req),
        hs.map fun p => (p.1, (cfg.H.applyWrite p.2 req).2)⟩ :=
  handleFrame_broadcast_write cfg hs f hreq ha ((broadcast_iff cfg f).2 ⟨hrtu, hd⟩) hw

/-- a malformed or unknown-function (or empty) broadcast is ignored altogether -/
theorem broadcast_malformed_ignored {σ : Type} (cfg : ServerCfg σ) (hs : List (Nat × σ))
    (f : Frame) (hb : isBroadcast cfg f = true) (hreq : requestOf f = none) :
    handleFrame cfg hs f = ⟨none, [], hs⟩ := by
  rw [handleFrame_no_request cfg hs f hreq]; simp [hb]

/-- a broadcast read is ignored: no reply, no handler call, no state change -/
theorem broadcast_read_ignored {σ : Type} (cfg : ServerCfg σ) (hs : List (Nat × σ)) (f : Frame)
    (req : Request) (hb : isBroadcast cfg f = true) (hreq : requestOf f = some req)
    (hr : isWrite req = false) :
    handleFrame cfg hs f = ⟨none, cfg.question f.dest req, hs⟩ := by
  rw [handleFrame_request cfg hs f hreq]
  cases ha : cfg.allows f.dest req <;> simp [hb, hr]

/-- on TCP (MBAP) there is no broadcast: unit id 0 is looked up in the unit map like any other -/
theorem unit0_ordinary_on_tcp {σ : Type} (cfg : ServerCfg σ) (f : Frame) (h : cfg.rtu = false) :
    isBroadcast cfg f = false := by
  simp [isBroadcast, h]

/-- …so a valid request to a configured unit 0 is served and answered … -/
theorem unit0_served_on_tcp {σ : Type} (cfg : ServerCfg σ) (hs : List (Nat × σ)) (f : Frame)
    (req : Request) (s : σ) (h : cfg.rtu = false) (hd : f.dest = 0)
    (hreq : requestOf f = some req) (hl : lookupUnit hs 0 = some s)
    (ha : cfg.allows 0 req = true) :
    handleFrame cfg hs f =
      ⟨some (serve cfg.H 0 s req).1, cfg.question 0 req ++ (serve cfg.H 0 s req).2.1,
        setUnit hs 0 (serve cfg.H 0 s req).2.2⟩ := by
  have := C01.served cfg hs f req s hreq (unit0_ordinary_on_tcp cfg f h) (by rw [hd]; exact hl)
    (by rw [hd]; exact ha)
  rw [hd] at this; exact this

/-- …and a frame to an unconfigured unit 0 is ignored, not broadcast -/
theorem unit0_unconfigured_on_tcp {σ : Type} (cfg : ServerCfg σ) (hs : List (Nat × σ)) (f : Frame)
    (h : cfg.rtu = false) (hd : f.dest = 0) (hl : lookupUnit hs 0 = none) (ha : cfg.auth = none) :
    handleFrame cfg hs f = ⟨none, [], hs⟩ :=
  silent_unless_addressed cfg hs f (unit0_ordinary_on_tcp cfg f h) (by rw [hd]; exact hl) ha

/-
  Sessions with an authorization handler (TLS with role certificates).  The statement of C17 is
  not limited to sessions without authorization.  With a handler configured the discipline is: an
  *allowed* (or malformed) frame for an unconfigured unit is met with silence exactly as above,
  and a *denied* one is answered with exception 01 — the authorization question precedes unit
  dispatch, which is what C08 prescribes for all unit ids.  Both halves are stated; the second is
  the one point where C08 takes precedence over the wording of C17 (DESIGN.md §5, C17).
-/

/-- whatever the authorization configuration: no reply, no handler call and no state change for a
    frame to an unconfigured unit, unless the authorization handler denies the request it denotes -/
theorem silent_unless_addressed_or_denied {σ : Type} (cfg : ServerCfg σ) (hs : List (Nat × σ))
    (f : Frame) (hb : isBroadcast cfg f = false) (hl : lookupUnit hs f.dest = none)
    (hok : ∀ req, requestOf f = some req → cfg.allows f.dest req = true) :
    (handleFrame cfg hs f).reply = none ∧ (∀ c ∈ (handleFrame cfg hs f).calls, c.isAuth = true)
      ∧ (handleFrame cfg hs f).states = hs :=
  C01.unconfigured_silent cfg hs f hb hl hok

/-- the excluded point, stated outright: a denied request is answered with exception 01 even when
    its unit id is not configured (no handler runs, no state changes) -/
theorem denied_answered_even_if_unconfigured {σ : Type} (cfg : ServerCfg σ) (hs : List (Nat × σ))
    (f : Frame) (req : Request) (hreq : requestOf f = some req)
    (hb : isBroadcast cfg f = false) (hd : cfg.allows f.dest req = false) :
    handleFrame cfg hs f = ⟨some [req.fc.toByte + 128, 1], cfg.question f.dest req, hs⟩ := by
  rw [C08.deny_no_effect cfg hs f req hreq hd, hb]; rfl

open Demo

/-- RTU, address 9 (not configured): silence for a valid read and for garbage alike -/
example : handleFrame rtu units ⟨none, 9, readCoils8⟩ = ⟨none, [], units⟩
    ∧ handleFrame rtu units ⟨none, 9, [0x2B, 1]⟩ = ⟨none, [], units⟩ :=
  ⟨silent_unless_addressed_rtu rtu units _ (by decide +kernel) (by decide +kernel) rfl,
   silent_unless_addressed_rtu rtu units _ (by decide +kernel) (by decide +kernel) rfl⟩

/-- RTU broadcast write of two registers: both units are written (unit 2 has only two registers,
    unit 1 three), nobody answers -/
example : (handleFrame rtu units ⟨none, 0, writeRegs⟩).reply = none
    ∧ (handleFrame rtu units ⟨none, 0, writeRegs⟩).calls
        = [.writeMultipleRegisters 1 ⟨0, 2⟩ [(0, 0x0102), (1, 0x0304)],
           .writeMultipleRegisters 2 ⟨0, 2⟩ [(0, 0x0102), (1, 0x0304)]]
    ∧ (handleFrame rtu units ⟨none, 0, writeRegs⟩).states
        = [(1, ⟨db1.coils, [0x0102, 0x0304, 7]⟩), (2, ⟨db2.coils, [0x0102, 0x0304]⟩)] := by
  decide +kernel

/-- RTU broadcast read: ignored -/
example : (handleFrame rtu units ⟨none, 0, readCoils8⟩).reply = none
    ∧ (handleFrame rtu units ⟨none, 0, readCoils8⟩).calls = [] := by
  decide +kernel

/-- the same bytes on TCP with unit id 0: not a broadcast, unit 0 is not configured, ignored;
    with unit 0 configured it is served -/
example : (handleFrame tcp units ⟨some 1, 0, writeRegs⟩).calls = []
    ∧ (handleFrame tcp ((0, db2) :: units) ⟨some 1, 0, writeRegs⟩).reply = some [16, 0, 0, 0, 2]
    ∧ (handleFrame tcp ((0, db2) :: units) ⟨some 1, 0, writeRegs⟩).calls
        = [.writeMultipleRegisters 0 ⟨0, 2⟩ [(0, 0x0102), (1, 0x0304)]] := by
  decide +kernel

end Rodbus.C17
