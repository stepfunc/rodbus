import RodbusModel.Spec.SerialServer
import RodbusModel.Props.C14
/-
  C14 for the RTU server task (`RtuServerTask::run`, serial/server.rs): for EVERY script of
  environment events the observed sequence (announced failed opens with their delays, successful
  opens, session ends with their delays, replies, end of the task) is the one of the counter
  specification (`run_eq_spec`); hence the delay before the re-attempt that follows the k-th
  consecutive failed open since the last successful open (or since the start) is
  `min(min · 2^(k-1), max)` (`observed_delays_conform`, `failures_from_start`), after a session
  that ended - bad frame or lost port - the first delay is the minimum and the doubling sequence
  restarts, whatever happened before the successful open (`restart_after_bad_frame`,
  `restart_after_port_loss`); a request is answered exactly while the port is open
  (`reply_iff_open`); a shutdown command or dropping every handle ends the task from every state
  (`shutdown_from_every_state`), the end is observed exactly once, last (`ended_final`).
-/
namespace Rodbus.C14Server
open Rodbus.Retry Rodbus.SerialServer
open Rodbus.Spec.SerialServer (T Mode delay conforms)

def phaseOf : Mode → Phase
  | .starting => .starting | .waiting => .waiting | .open_ => .session | .done => .finished

/-- the simulation relation: the strategy object holds `min(min · 2^k, max)`, `k` the number of
    failed opens since the last successful one -/
structure Sim (mn mx : Nat) (s : S) (t : T) : Prop where
  phase : s.phase = phaseOf t.mode
  present : s.present = t.present
  rmin : s.retry.min = mn
  rmax : s.retry.max = mx
  cur : s.retry.current = Nat.min (mn * 2 ^ t.k) mx
  k_open : t.mode = .open_ → t.k = 0

theorem init_sim (mn mx : Nat) : Sim mn mx (init mn mx) {} := by
  constructor <;> simp [init, create, phaseOf]

/-- `Sim` on constructor terms, with the strategy in closed form -/
theorem sim_mk (mn mx : Nat) (r : Doubling) (p tp : Bool) (ph : Phase) (m : Mode) (k : Nat) :
    Sim mn mx ⟨r, p, ph⟩ ⟨m, tp, k⟩ ↔
      ph = phaseOf m ∧ p = tp ∧ r = closed mn mx k ∧ (m = .open_ → k = 0) := by
  constructor
  · intro h
    exact ⟨h.phase, h.present, eq_closed h.rmin h.rmax h.cur, h.k_open⟩
  · rintro ⟨rfl, rfl, rfl, h4⟩
    exact ⟨rfl, rfl, rfl, rfl, rfl, h4⟩

/-- one event: related states stay related and the same is observed.  Both sides are evaluated
    on constructor terms; the only fact used is what a failed attempt does to the closed form. -/
theorem step_sim {mn mx : Nat} (hmax : mx ≤ DURATION_MAX) (s : S) (t : T) (e : Ev)
    (h : Sim mn mx s t) :
    Sim mn mx (step s e).1 (Spec.SerialServer.step mn mx t e).1 ∧
      (step s e).2 = (Spec.SerialServer.step mn mx t e).2 := by
  rcases s with ⟨r, pr, ph⟩
  rcases t with ⟨m, tp, k⟩
  obtain ⟨rfl, rfl, rfl, h4⟩ := (sim_mk ..).1 h
  have hf := afterFailedConnect_closed hmax mn k
  cases m
  case done => simpa [step, Spec.SerialServer.step, phaseOf] using h
  case open_ =>
    obtain rfl := h4 rfl
    cases e <;>
      simp [step, Spec.SerialServer.step, finish, sessionError, phaseOf, sim_mk]
  all_goals
    cases e <;> cases pr <;>
      simp [step, Spec.SerialServer.step, Spec.SerialServer.attempt, attempt, finish, phaseOf,
        sim_mk, hf, delay]

theorem script_sim {mn mx : Nat} (hmax : mx ≤ DURATION_MAX) (es : List Ev) :
    ∀ (s : S) (t : T), Sim mn mx s t →
      Sim mn mx (after s es) (Spec.SerialServer.after mn mx t es) ∧
        outputs s es = Spec.SerialServer.outputs mn mx t es := by
  induction es with
  | nil => intro s t h; exact ⟨h, rfl⟩
  | cons e es ih =>
    intro s t h
    obtain ⟨h', ho⟩ := step_sim hmax s t e h
    obtain ⟨h'', ho'⟩ := ih _ _ h'
    refine ⟨by simpa [after, Spec.SerialServer.after] using h'', ?_⟩
    simp only [outputs, Spec.SerialServer.outputs, ho, ho']

/-- for every `(min, max)` with `max` representable and EVERY script the task
    is observed to do exactly what the counter specification says: the delay announced (and
    slept) after the k-th consecutive failed open since the last successful open (or since the
    start) is `min(min · 2^(k-1), max)`, the delay after an ended session is `min`. -/
theorem run_eq_spec (mn mx : Nat) (hmax : mx ≤ DURATION_MAX) (script : List Ev) :
    SerialServer.run mn mx script = Spec.SerialServer.run mn mx script := by
  unfold SerialServer.run Spec.SerialServer.run
  exact (script_sim hmax (script ++ [.shutdown]) _ _ (init_sim mn mx)).2

theorem Sim.session {mn mx : Nat} {s : S} {t : T} (h : Sim mn mx s t) (hs : s.phase = .session) :
    s.retry = closed mn mx 0 := by
  rcases s with ⟨r, pr, ph⟩
  rcases t with ⟨m, tp, k⟩
  obtain ⟨rfl, _, rfl, h4⟩ := (sim_mk ..).1 h
  cases m <;> first | exact h4 rfl ▸ rfl | cases hs

theorem spec_done_outputs (mn mx : Nat) (es : List Ev) :
    ∀ t : T, t.mode = .done → Spec.SerialServer.outputs mn mx t es = [] := by
  induction es with
  | nil => intros; rfl
  | cons e es ih =>
    intro t h
    have h1 : Spec.SerialServer.step mn mx t e = (t, []) := by simp [Spec.SerialServer.step, h]
    simp [Spec.SerialServer.outputs, h1, ih t h]

/-- the checker's state after the outputs of one step can be read off the specification state -/
theorem spec_conforms_step (mn mx : Nat) (t : T) (e : Ev) (rest : List Obs)
    (hk : t.mode = .open_ → t.k = 0) :
    ∀ r, r = Spec.SerialServer.step mn mx t e → (r.1.mode = .done → rest = []) →
      conforms mn mx (t.mode == .open_) t.k (r.2 ++ rest) =
        conforms mn mx (r.1.mode == .open_) r.1.k rest ∧
      (r.1.mode = .open_ → r.1.k = 0) := by
  rintro _ rfl hd
  have hb : ∀ m : Mode, (m == .open_) = decide (m = .open_) := fun m => by cases m <;> rfl
  rcases t with ⟨m, p, k⟩
  -- the specification's `step` by mode, event and presence of the path (an attempt reads it); the
  -- checker is run over what is observed
  cases m
  case done => simp [Spec.SerialServer.step]
  case open_ =>
    obtain rfl : k = 0 := hk rfl
    cases e <;> simp [Spec.SerialServer.step, conforms, hb] at hd ⊢ <;> simp [hd, conforms]
  all_goals
    cases e <;> cases p <;>
      simp [Spec.SerialServer.step, Spec.SerialServer.attempt, conforms, hb] at hd ⊢ <;>
      simp [hd, conforms]

theorem spec_conforms (mn mx : Nat) (es : List Ev) :
    ∀ t : T, (t.mode = .open_ → t.k = 0) →
      conforms mn mx (t.mode == .open_) t.k (Spec.SerialServer.outputs mn mx t es) = true := by
  induction es with
  | nil => intros; rfl
  | cons e es ih =>
    intro t hk
    obtain ⟨h1, h2⟩ := spec_conforms_step mn mx t e (Spec.SerialServer.outputs mn mx _ es) hk _ rfl
      (spec_done_outputs mn mx es _)
    rw [Spec.SerialServer.outputs, h1]
    exact ih _ h2

/-- in the sequence observed for ANY script, every failed open
    carries `min(min · 2^k, max)` where `k` is the number of failed opens since the last
    successful open (or since the start); a session end carries `min` and happens only while the
    port is open, as do replies; no open attempt is made while the port is open; nothing follows
    the end of the task. -/
theorem observed_delays_conform (mn mx : Nat) (hmax : mx ≤ DURATION_MAX) (script : List Ev) :
    conforms mn mx false 0 (SerialServer.run mn mx script) = true := by
  rw [run_eq_spec mn mx hmax]
  exact spec_conforms mn mx (script ++ [.shutdown]) {} nofun

theorem outputs_append (s : S) (es fs : List Ev) :
    outputs s (es ++ fs) = outputs s es ++ outputs (after s es) fs := by
  induction es generalizing s with
  | nil => rfl
  | cons e es ih => simp [outputs, after, ih, List.append_assoc]

/-- while the path stays absent, a task that is about to make an attempt (first poll, or
    sleeping) announces the strategy's consecutive-failure delays (`Retry.failures`, the object of
    `C14.kth_delay`) -/
theorem absent_failures (k : Nat) :
    ∀ s : S, s.phase = .waiting ∨ s.phase = .starting →
      outputs s (List.replicate k .absent) = (failures s.retry k).map Obs.failed := by
  induction k with
  | zero => intros; rfl
  | succ k ih =>
    intro s hp
    have hs : step s .absent =
        ({ s with present := false, retry := (afterFailedConnect s.retry).2, phase := .waiting },
          [.failed (afterFailedConnect s.retry).1]) := by
      rcases hp with hp | hp <;> simp [step, hp, attempt]
    simp only [List.replicate_succ, outputs, hs, failures, List.map_cons, List.singleton_append]
    exact congrArg _ (ih _ (Or.inl rfl))

/-- the announcements of `k` consecutive failed opens counted from a restart -/
def restartFails (mn mx k : Nat) : List Obs :=
  (List.range k).map fun i => Obs.failed (Nat.min (mn * 2 ^ i) mx)

/-- a task whose port cannot be opened announces
    `min(min · 2^i, max)`, i = 0, 1, …, k-1, for every `k` -/
theorem failures_from_start (mn mx : Nat) (hmax : mx ≤ DURATION_MAX) (k : Nat) :
    outputs (init mn mx) (List.replicate k .absent) = restartFails mn mx k := by
  rw [absent_failures k (init mn mx) (Or.inr rfl)]
  simp only [init]
  rw [C14.kth_delay_created mn mx hmax k]
  simp [restartFails, List.map_map, Function.comp_def]

/-- whatever script led to an open port, a session-ending event `e`
    announces `min` and the following failed opens restart the doubling sequence -/
theorem restart_after_session_end (mn mx : Nat) (hmax : mx ≤ DURATION_MAX) (pre : List Ev)
    (hopen : (after (init mn mx) pre).phase = .session) (e : Ev)
    (he : e = .lost ∨ e = .badFrame) (k : Nat) :
    outputs (after (init mn mx) pre) (e :: List.replicate k .absent) =
      .reopen mn :: restartFails mn mx k := by
  have hr := (script_sim hmax pre _ _ (init_sim mn mx)).1.session hopen
  generalize after (init mn mx) pre = s at hopen hr
  have hs : (step s e).2 = [.reopen mn] ∧ (step s e).1.phase = .waiting ∧
      (step s e).1.retry = s.retry := by
    rcases he with he | he <;> subst he <;> simp [step, hopen, sessionError, hr]
  simp only [outputs, hs.1, List.singleton_append]
  rw [absent_failures k _ (Or.inl hs.2.1), hs.2.2, hr, failures_closed hmax]
  simp [restartFails, List.map_map, Function.comp_def]

/-- whatever script led to an open port (any number of failed opens
    before it), if the port is then lost the task announces a wait of `min` and the following
    failed opens restart the doubling sequence: `min(min · 2^i, max)`, i = 0, 1, … -/
theorem restart_after_port_loss (mn mx : Nat) (hmax : mx ≤ DURATION_MAX) (pre : List Ev)
    (hopen : (after (init mn mx) pre).phase = .session) (k : Nat) :
    outputs (after (init mn mx) pre) (.lost :: List.replicate k .absent) =
      .reopen mn :: restartFails mn mx k :=
  restart_after_session_end mn mx hmax pre hopen .lost (Or.inl rfl) k

/-- the same when a frame ends the session (bad CRC). -/
theorem restart_after_bad_frame (mn mx : Nat) (hmax : mx ≤ DURATION_MAX) (pre : List Ev)
    (hopen : (after (init mn mx) pre).phase = .session) (k : Nat) :
    outputs (after (init mn mx) pre) (.badFrame :: List.replicate k .absent) =
      .reopen mn :: restartFails mn mx k :=
  restart_after_session_end mn mx hmax pre hopen .badFrame (Or.inr rfl) k

/-- a served request is answered iff the port is open, and it never changes
    where the task is (nor its strategy object) -/
theorem reply_iff_open (s : S) :
    ((step s .frame).2 = [.reply] ↔ s.phase = .session) ∧
    ((step s .frame).2 = [] ↔ s.phase ≠ .session) ∧ (step s .frame).1 = s := by
  rcases s with ⟨r, pr, ph⟩
  cases ph <;> simp [step]

theorem step_finished (s : S) (e : Ev) (h : s.phase = .finished) : step s e = (s, []) := by
  simp [step, h]

theorem finished_outputs (es : List Ev) : ∀ s : S, s.phase = .finished → outputs s es = [] := by
  induction es with
  | nil => intros; rfl
  | cons e es ih => intro s h; simp [outputs, step_finished s e h, ih s h]

theorem finished_after (es : List Ev) (s : S) (h : s.phase = .finished) :
    (after s es).phase = .finished :=
  List.foldlRecOn (motive := fun s : S => s.phase = .finished) es _ h
    fun s h e _ => (step_finished s e h).symm ▸ h

/-- whatever the task is doing (about to make its first attempt,
    sleeping after a failed open or an ended session, serving an open port), a shutdown command
    and the loss of every handle end it: the end is the last thing observed of this event, it is
    observed once, and the task is over.  Only a task that had not been polled yet makes its one
    open attempt first. -/
theorem shutdown_from_every_state (s : S) (e : Ev) (he : e = .shutdown ∨ e = .dropAll)
    (h : s.phase ≠ .finished) :
    (step s e).1.phase = .finished ∧
    ∃ l, (step s e).2 = l ++ [.ended] ∧ Obs.ended ∉ l ∧
      (s.phase ≠ .starting → l = []) := by
  rcases s with ⟨r, pr, ph⟩
  cases ph
  case finished => exact absurd rfl h
  case starting =>
    cases pr
    · refine ⟨?_, [.failed (afterFailedConnect r).1], ?_, by simp, fun h => absurd rfl h⟩ <;>
        rcases he with he | he <;> subst he <;> simp [step, finish, attempt]
    · refine ⟨?_, [.opened], ?_, by simp, fun h => absurd rfl h⟩ <;>
        rcases he with he | he <;> subst he <;> simp [step, finish, attempt]
  case waiting =>
    refine ⟨?_, [], ?_, by simp, fun _ => rfl⟩ <;>
      rcases he with he | he <;> subst he <;> simp [step, finish]
  case session =>
    refine ⟨?_, [], ?_, by simp, fun _ => rfl⟩ <;>
      rcases he with he | he <;> subst he <;> simp [step, finish]

theorem shutdown_ends_run (mn mx : Nat) (pre : List Ev) (e : Ev)
    (he : e = .shutdown ∨ e = .dropAll) (rest : List Ev) :
    (after (init mn mx) (pre ++ e :: rest)).phase = .finished := by
  have hafter : after (init mn mx) (pre ++ e :: rest) =
      after (step (after (init mn mx) pre) e).1 rest := by
    simp [after, List.foldl_append]
  rw [hafter]
  apply finished_after
  by_cases h : (after (init mn mx) pre).phase = .finished
  · rw [step_finished _ _ h]; exact h
  · exact (shutdown_from_every_state _ e he h).1

/-- a running task: `shutdown` / `dropAll` end it with `ended` observed last, any other event
    shows something else and leaves it running -/
theorem step_running (s : S) (e : Ev) (h : s.phase ≠ .finished) :
    ((e = .shutdown ∨ e = .dropAll) ∧ (∃ l, (step s e).2 = l ++ [.ended] ∧ Obs.ended ∉ l) ∧
      (step s e).1.phase = .finished) ∨
    (e ≠ .shutdown ∧ e ≠ .dropAll ∧ Obs.ended ∉ (step s e).2 ∧ (step s e).1.phase ≠ .finished) := by
  by_cases he : e = .shutdown ∨ e = .dropAll
  · left
    obtain ⟨h1, l, h2, h3, _⟩ := shutdown_from_every_state s e he h
    exact ⟨he, ⟨l, h2, h3⟩, h1⟩
  · right
    rcases s with ⟨r, pr, ph⟩
    -- `step` by phase, event and presence of the path: `ended` is observed in `finish` only
    cases ph <;> cases e <;> cases pr <;>
      simp_all [step, attempt, sessionError]

theorem outputs_ended_last (es : List Ev) : ∀ s : S, s.phase ≠ .finished →
    ∃ l, outputs s (es ++ [.shutdown]) = l ++ [.ended] ∧ Obs.ended ∉ l := by
  induction es with
  | nil =>
    intro s h
    rcases step_running s .shutdown h with ⟨_, ⟨l, h2, hn⟩, _⟩ | ⟨h1, _⟩
    · exact ⟨l, by simp [outputs, h2], hn⟩
    · exact absurd rfl h1
  | cons e es ih =>
    intro s h
    rcases step_running s e h with ⟨_, ⟨l, h2, hn⟩, h3⟩ | ⟨_, _, h2, h3⟩
    · exact ⟨l, by simp [outputs, h2, finished_outputs _ _ h3], hn⟩
    · obtain ⟨l, hl, hn⟩ := ih _ h3
      exact ⟨(step s e).2 ++ l, by simp [outputs, hl], by simp [h2, hn]⟩

/-- for every script the end of the task is observed exactly once, as the last
    element (every run ends with a shutdown command). -/
theorem ended_final (mn mx : Nat) (script : List Ev) :
    ∃ l, SerialServer.run mn mx script = l ++ [.ended] ∧ Obs.ended ∉ l :=
  outputs_ended_last script (init mn mx) (by simp [init])

open Ev Obs in
/-- two failures, a successful open, a request, a bad frame: the wait is the minimum, and so is the
    delay of the failed open that follows -/
example : SerialServer.run 40 160 [absent, absent, present, frame, badFrame, absent, absent, present] =
    [failed 40, failed 80, opened, reply, reopen 40, failed 40, failed 80, opened, ended] := by decide +kernel

open Ev Obs in
/-- the same with a lost port, capped -/
example : SerialServer.run 40 100 [absent, absent, absent, present, lost, absent, absent, absent, absent] =
    [failed 40, failed 80, failed 100, opened, reopen 40, failed 40, failed 80, failed 100, failed 100, ended] := by
  decide +kernel

open Ev Obs in
/-- a task that is shut down before it ran makes its one attempt; later events show nothing -/
example : SerialServer.run 40 160 [shutdown, present, frame] = [failed 40, ended] := by decide +kernel

open Ev Obs in
example : SerialServer.run 40 160 [] = [failed 40, ended] := by decide +kernel

open Ev Obs in
/-- dropping every handle while the port is open; requests outside a session are not answered -/
example : SerialServer.run 40 160 [frame, absent, frame, present, frame, dropAll, frame] =
    [failed 40, opened, reply, ended] := by decide +kernel

open Ev Obs in
/-- min > max: failed opens wait `max`, an ended session waits `min` (`after_disconnect` is not capped) -/
example : SerialServer.run 60 20 [absent, present, lost, absent] =
    [failed 20, opened, reopen 60, failed 20, ended] := by decide +kernel

open Ev in
/-- the hypothesis of the restart theorems is satisfiable -/
example : (after (init 40 160) [absent, absent, present]).phase = .session := by decide +kernel

/-- the check is not trivially true: `reset` forgotten / `after_failed_connect` after a session -/
example : conforms 40 160 false 0
    [.failed 40, .failed 80, .opened, .reopen 40, .failed 160, .ended] = false := by decide +kernel
example : conforms 40 160 false 0
    [.failed 40, .opened, .reopen 80, .ended] = false := by decide +kernel
example : conforms 40 160 false 0 [.failed 40, .reply, .ended] = false := by decide +kernel

end Rodbus.C14Server
