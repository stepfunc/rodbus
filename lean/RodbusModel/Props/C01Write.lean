import RodbusModel.Props.C01
import RodbusModel.Lemmas.ServerSession
/-
  C01 / C02 / C07 over a transport whose write fails (`io.write(...).await?` in server/task.rs),
  for every fault position `n` (the transport accepts `n` reply writes and fails the next one):
  handler calls and states are those of the reference server over a prefix of the frames the
  fault-free session handles (`C01W.handledW`, Lemmas/ServerSession.lean), the wire carries
  exactly the first `n` framed replies, and the session ends with the write error iff the
  fault-free session has more than `n` replies.
-/
namespace Rodbus.C01W

theorem flatten_map_prefix {α β : Type} (f : α → List β) {l₁ l₂ : List α} (h : l₁ <+: l₂) :
    (l₁.map f).flatten <+: (l₂.map f).flatten := by
  obtain ⟨t, rfl⟩ := h
  rw [List.map_append, List.flatten_append]
  exact List.prefix_append _ _

/-- (C01, C02) calls and final states of a session whose `(n+1)`-th write fails are those of the
    reference run over the handled prefix of the fault-free session's frames; it ends with the
    write error iff the fault was reached, otherwise as the fault-free session ends -/
theorem write_failure_session {σ : Type} (fr : Framing) (cfg : ServerCfg σ) (l : DecodeLevel)
    (n : Nat) (hs : List (Nat × σ)) (script : List SessStep) :
    sessionFramesW fr cfg n hs script <+: C01.sessionFrames fr script
    ∧ (runSessionW fr cfg l n hs script).calls
        = (runFrames cfg hs (sessionFramesW fr cfg n hs script)).2.1
    ∧ (runSessionW fr cfg l n hs script).states
        = (runFrames cfg hs (sessionFramesW fr cfg n hs script)).2.2
    ∧ (runSessionW fr cfg l n hs script).ended
        = endW (reachesFault fr cfg n hs script)
            (endOf (cutScript script).2 (readerRun fr (cutScript script).1)) := by
  rw [runSessionW_runFrames]
  exact ⟨(handledW_spec _ _ _ _).1, rfl, rfl, rfl⟩

/-- (C01) the bytes on the wire are exactly the first `n` framed replies of the fault-free session
    when the fault is reached, and all of them otherwise -/
theorem write_failure_wire {σ : Type} (fr : Framing) (cfg : ServerCfg σ) (l : DecodeLevel)
    (n : Nat) (hs : List (Nat × σ)) (script : List SessStep) :
    (runSessionW fr cfg l n hs script).tx
      = (((runFrames cfg hs (C01.sessionFrames fr script)).1.take n).map
          fun p => frameOut fr p.1 p.2).flatten := by
  rw [runSessionW_runFrames, sessionFramesW, handled_take]

/-- wire bytes and handler calls of the faulty session are prefixes of those of the fault-free
    session (nothing new, nothing reordered, nothing repeated) -/
theorem write_failure_prefix {σ : Type} (fr : Framing) (cfg : ServerCfg σ) (l : DecodeLevel)
    (n : Nat) (hs : List (Nat × σ)) (script : List SessStep) :
    (runSessionW fr cfg l n hs script).tx <+: (runSession fr cfg l hs script).tx
    ∧ (runSessionW fr cfg l n hs script).calls <+: (runSession fr cfg l hs script).calls := by
  obtain ⟨post, hp⟩ := (handledW_spec cfg n hs (C01.sessionFrames fr script)).1
  rw [write_failure_wire, runSession_runFrames, runSessionW_runFrames]
  refine ⟨flatten_map_prefix _ (List.take_prefix _ _), ?_⟩
  show (runFrames cfg hs (handledW cfg n hs (C01.sessionFrames fr script)).1).2.1 <+: _
  conv => rhs; rw [← hp, runFrames_append]
  exact List.prefix_append _ _

/-- (C07) the session ends with the write error exactly when the fault-free session would have
    written more than `n` replies -/
theorem write_failure_ends_session {σ : Type} (fr : Framing) (cfg : ServerCfg σ) (l : DecodeLevel)
    (n : Nat) (hs : List (Nat × σ)) (script : List SessStep) :
    (runSessionW fr cfg l n hs script).ended = .writeErr
      ↔ n < (runFrames cfg hs (C01.sessionFrames fr script)).1.length := by
  rw [runSessionW_runFrames, ← failed_iff]
  unfold reachesFault endW
  cases (handledW cfg n hs (C01.sessionFrames fr script)).2 <;> simp

/-- a fault position beyond the session's replies is invisible -/
theorem write_failure_unreached {σ : Type} (fr : Framing) (cfg : ServerCfg σ) (l : DecodeLevel)
    (n : Nat) (hs : List (Nat × σ)) (script : List SessStep)
    (h : (runFrames cfg hs (C01.sessionFrames fr script)).1.length ≤ n) :
    runSessionW fr cfg l n hs script
      = ⟨(runSession fr cfg l hs script).tx, (runSession fr cfg l hs script).calls,
         (runSession fr cfg l hs script).states, .kind (runSession fr cfg l hs script).ended⟩ := by
  have hb : (handledW cfg n hs (C01.sessionFrames fr script)).2 = false := by
    rw [← Bool.not_eq_true, failed_iff]; omega
  have hall := (handledW_spec cfg n hs (C01.sessionFrames fr script)).2
  rw [hb] at hall
  rw [runSessionW_runFrames, runSession_runFrames]
  simp [sessionFramesW, reachesFault, hb, hall.1, endW, List.take_of_length_le h]

/-- (C02) every handler call of the faulty session is a call of the fault-free session, where
    `C02.session_calls_justified` justifies it by a frame the reader delivered -/
theorem write_failure_calls_justified {σ : Type} (fr : Framing) (cfg : ServerCfg σ)
    (l : DecodeLevel) (n : Nat) (hs : List (Nat × σ)) (script : List SessStep) (c : Call)
    (hc : c ∈ (runSessionW fr cfg l n hs script).calls) :
    c ∈ (runSession fr cfg l hs script).calls :=
  (write_failure_prefix fr cfg l n hs script).2.subset hc

/-- (C01) stated against the declarative reference server: the wire carries exactly the first `n`
    framed replies of `Spec.Server.respond` folded over the frames the reader delivered -/
theorem write_failure_wire_spec {σ : Type} (fr : Framing) (cfg : ServerCfg σ) (l : DecodeLevel)
    (n : Nat) (hs : List (Nat × σ)) (script : List SessStep) :
    (runSessionW fr cfg l n hs script).tx
      = (((specRun cfg hs (C01.sessionFrames fr script)).1.take n).map
          fun p => frameOut fr p.1 p.2).flatten := by
  rw [write_failure_wire, C01.runFrames_eq_spec]

/-- the lost reply: when the fault is reached, the request whose reply could not be written is the
    `(n+1)`-th answered request of the reference server, and it was executed: the handler states
    are those after it -/
theorem write_failure_states_spec {σ : Type} (fr : Framing) (cfg : ServerCfg σ) (l : DecodeLevel)
    (n : Nat) (hs : List (Nat × σ)) (script : List SessStep) :
    (runSessionW fr cfg l n hs script).states
      = (specRun cfg hs (sessionFramesW fr cfg n hs script)).2.2
    ∧ (runSessionW fr cfg l n hs script).calls
      = (specRun cfg hs (sessionFramesW fr cfg n hs script)).2.1 := by
  have h := write_failure_session fr cfg l n hs script
  rw [h.2.1, h.2.2.1, C01.runFrames_eq_spec]
  exact ⟨rfl, rfl⟩

/-- a later fault only adds to what an earlier fault lets through -/
theorem write_failure_monotone {σ : Type} (fr : Framing) (cfg : ServerCfg σ) (l : DecodeLevel)
    (n m : Nat) (hnm : n ≤ m) (hs : List (Nat × σ)) (script : List SessStep) :
    (runSessionW fr cfg l n hs script).tx <+: (runSessionW fr cfg l m hs script).tx := by
  rw [write_failure_wire, write_failure_wire]
  exact flatten_map_prefix _ (List.take_prefix_take_left hnm)

open Demo

/-- two TCP reads for unit 1; the transport accepts one reply and fails the second: the first
    reply is on the wire, the session ends with the write error -/
example :
    (runSessionW .tcp tcp {} 1 units
      [.data ([0, 7, 0, 0, 0, 6, 1] ++ readCoils8 ++ [0, 8, 0, 0, 0, 6, 1] ++ readCoils8
              ++ [0, 9, 0, 0, 0, 6, 1] ++ readCoils8), .eof]).tx
      = [0, 7, 0, 0, 0, 4, 1, 1, 1, 0x4D]
    ∧ (runSessionW .tcp tcp {} 1 units
      [.data ([0, 7, 0, 0, 0, 6, 1] ++ readCoils8 ++ [0, 8, 0, 0, 0, 6, 1] ++ readCoils8
              ++ [0, 9, 0, 0, 0, 6, 1] ++ readCoils8), .eof]).ended = .writeErr := by
  decide +kernel

/-- a write whose reply is lost HAS been executed, once -/
example :
    ((runSessionW .tcp tcp {} 0 units
      [.data ([0, 7, 0, 0, 0, 6, 1] ++ writeCoil ++ [0, 8, 0, 0, 0, 6, 1] ++ writeCoil), .eof]).calls).length
      = 1 := by
  decide +kernel

end Rodbus.C01W
