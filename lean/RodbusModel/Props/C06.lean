import RodbusModel.Lemmas.Rtu
import RodbusModel.Gen.Tables
/-
  C06  RTU frames are emitted with a correct CRC and accepted only if the CRC verifies.

  `format` is the frame `format_rtu_pdu` writes, `parse d` is `RtuParser::parse` and `run d` the
  framed reader over it (Model/Rtu.lean); `specFrames d` is the whole-stream specification
  (Spec/Rtu.lean).  The CRC algebra and the error patterns are in Lemmas/Crc.lean, the parser
  against the specification in Lemmas/Rtu.lean.
-/
namespace Rodbus.C06
open Rodbus.Crc Rodbus.Rtu

/-- every emitted frame is address, PDU and the CRC-16/MODBUS of address and PDU, low byte first -/
theorem format_crc (dest : Nat) (pdu : Bytes) :
    format dest pdu = dest :: pdu ++ u16le (crc (dest :: pdu)) := format_eq dest pdu

theorem format_len (dest : Nat) (pdu : Bytes) : (format dest pdu).length = pdu.length + 3 :=
  format_length dest pdu

theorem format_len_le (dest : Nat) (pdu : Bytes) (h : pdu.length ≤ 253) :
    (format dest pdu).length ≤ 256 := by
  rw [format_length]; omega

/-- the CRC is a 16-bit value, so the two trailer bytes carry all of it -/
theorem crc_lt (bs : Bytes) (h : Bytes.WF bs) : crc bs < 65536 := Crc.crc_lt bs h

theorem format_wf (dest : Nat) (pdu : Bytes) (hd : dest < 256) (hp : Bytes.WF pdu) :
    Bytes.WF (format dest pdu) :=
  Bytes.WF_append.2 ⟨Bytes.WF_cons.2 ⟨hd, hp⟩, u16le_wf _⟩

/-- Parser call from `Start` that delivers a frame: the bytes consumed are address, PDU and the
    CRC of address and PDU (low byte first), and the PDU length is the one the length rule
    (`frameLen?`: function code and byte count) selects. -/
theorem accept_sound (d : Dir) (rb : RB) (f : Frame) (st' : PState) (rb' : RB)
    (hw : Bytes.WF rb.data) (h : parse d .start rb = (.frame f, st', rb')) :
    rb.data = f.dest :: f.pdu ++ u16le (crc (f.dest :: f.pdu)) ++ rb'.data
      ∧ f.tx = none ∧ st' = .start
      ∧ ∃ n, frameLen? d rb.data = .len n ∧ f.pdu.length = 1 + n ∧ f.pdu.length ≤ 253 := by
  obtain ⟨dest, body, n, hdata, hfl, ha, hn, hst⟩ := parseStart_result h
  have hl := ha.2.2.1
  refine ⟨?_, ha.1, hst, n, hfl, by omega, by omega⟩
  rw [hdata] at hw ⊢
  rw [ha.wf (Bytes.WF_cons.1 hw).2, ha.2.1]; simp

/-- the same for a call that resumes in `ReadToOffsetForLength(dest, off)` -/
theorem accept_sound_toOffset (d : Dir) (dest off : Nat) (rb : RB) (f : Frame) (st' : PState)
    (rb' : RB) (hw : Bytes.WF rb.data)
    (h : parse d (.toOffset dest off) rb = (.frame f, st', rb')) :
    rb.data = f.pdu ++ u16le (crc (f.dest :: f.pdu)) ++ rb'.data ∧ f.dest = dest ∧ f.tx = none
      ∧ ∃ extra, f.pdu[off]? = some extra ∧ f.pdu.length = 1 + (off + extra)
          ∧ f.pdu.length ≤ 253 := by
  obtain ⟨extra, he, ha, hl, -⟩ := parseToOffset_result h
  exact ⟨ha.wf hw, ha.2.1, ha.1, extra, he, by have := ha.2.2.1; omega, by have := ha.2.2.1; omega⟩

/-- the same for a call that resumes in `ReadFullBody(dest, len)` -/
theorem accept_sound_fullBody (d : Dir) (dest len : Nat) (rb : RB) (f : Frame) (st' : PState)
    (rb' : RB) (hw : Bytes.WF rb.data)
    (h : parse d (.fullBody dest len) rb = (.frame f, st', rb')) :
    rb.data = f.pdu ++ u16le (crc (f.dest :: f.pdu)) ++ rb'.data ∧ f.dest = dest ∧ f.tx = none
      ∧ f.pdu.length = 1 + len ∧ f.pdu.length ≤ 253 := by
  obtain ⟨ha, hl, -⟩ := parseFullBody_result h
  exact ⟨ha.wf hw, ha.2.1, ha.1, by have := ha.2.2.1; omega, by have := ha.2.2.1; omega⟩

/-- The guards of `ReadBuffer::read_u8`, `peek_at`, `read` and `read_u16_le` hold at every call
    site of the parser: a parser call reports only framing errors, never
    `InternalError::InsufficientBytesForRead`.  In particular both `peek_at` calls are strictly
    in bounds (see `peek_in_bounds`), so the off-by-one of the Rust guard (`len < idx` instead of
    `len <= idx`) is unreachable from this parser. -/
theorem parse_no_internal_error (d : Dir) (st : PState) (rb : RB) (e : FrameErr) (st' : PState)
    (rb' : RB) (h : parse d st rb = (.err e, st', rb')) :
    e ≠ .internalShortRead ∧ e ≠ .spuriousEof
      ∧ ((∃ fc, e = .unknownFunctionCode fc) ∨ (∃ n, e = .frameLengthTooBig n 253)
          ∨ ∃ r x, r ≠ x ∧ e = .crcValidationFailure r x) := by
  have hf : FramingErr e := parse_err d st rb e st' rb' h
  exact ⟨hf.ne_internal, hf.ne_spurious, hf⟩

/-- the two `peek_at` sites: after the length checks of the parser the index is `< len` -/
theorem peek_in_bounds (rb : RB) :
    (¬ rb.len < 2 → 0 < (rb.consume 1).len ∧ peekAt (rb.consume 1) 0 = some (rb.data.getD 1 0))
    ∧ (∀ off, ¬ rb.len < 1 + off →
        1 + off - 1 < rb.len ∧ peekAt rb (1 + off - 1) = some (rb.data.getD off 0)) := by
  refine ⟨fun h => ?_, fun off h => ?_⟩
  · have h : ¬ rb.data.length < 2 := h
    have h1 : 0 < (rb.consume 1).data.length := by
      rw [RB.consume_data, List.length_drop]; omega
    exact ⟨h1, by rw [peekAt_of_lt _ 0 h1, RB.consume_data, getD_drop]⟩
  · have h : ¬ rb.data.length < 1 + off := h
    have h1 : 1 + off - 1 < rb.data.length := by omega
    exact ⟨h1, by rw [peekAt_of_lt _ _ h1, Nat.add_sub_cancel_left]⟩

/-- For every direction and every way the transport cuts the byte stream into deliveries, the
    buffered reader reports exactly the events of the whole stream. -/
theorem rtu_chunking_independent (d : Dir) (chunks : List Bytes) :
    Rtu.run d chunks = specFrames d chunks.flatten :=
  runChunks_spec (refines d) chunks .start RB.empty (by simp [RB.empty]) trivial
    (by simp [need, RB.empty])

/-- every error the reader reports is one of the three framing errors, and a CRC error carries
    two different values -/
theorem run_errors (d : Dir) (chunks : List Bytes) (e : FrameErr)
    (h : Event.err e ∈ Rtu.run d chunks) :
    (∃ fc, e = .unknownFunctionCode fc) ∨ (∃ n, e = .frameLengthTooBig n 253)
      ∨ ∃ r x, r ≠ x ∧ e = .crcValidationFailure r x := by
  rw [rtu_chunking_independent] at h
  exact specFrames_err_mem d _ _ h

/-- `read_some` is never called on a full buffer: no spurious `UnexpectedEof` -/
theorem no_spurious_eof (d : Dir) (chunks : List Bytes) :
    Event.err .spuriousEof ∉ Rtu.run d chunks :=
  fun h => FramingErr.ne_spurious (run_errors d chunks _ h) rfl

/-- no run of the reader ever hits an `InsufficientBytesForRead` guard -/
theorem no_internal_short_read (d : Dir) (chunks : List Bytes) :
    Event.err .internalShortRead ∉ Rtu.run d chunks :=
  fun h => FramingErr.ne_internal (run_errors d chunks _ h) rfl

/-- every frame the reader delivers, under any chunking, is a CRC-correct span of the stream -/
theorem run_accept_sound (d : Dir) (chunks : List Bytes) (hw : Bytes.WF chunks.flatten)
    (f : Frame) (h : Event.frame f ∈ Rtu.run d chunks) :
    ∃ pre post, chunks.flatten = pre ++ format f.dest f.pdu ++ post ∧ f.tx = none
      ∧ frameSpan d (format f.dest f.pdu) = some (format f.dest f.pdu).length := by
  rw [rtu_chunking_independent] at h
  exact specFrames_frame_mem d _ hw f h

/-- a frame emitted for a PDU that obeys the length rule of the receiving direction is
    delivered unchanged, and the rest of the stream is parsed from the byte after its CRC -/
theorem format_parse_roundtrip (d : Dir) (dest : Nat) (pdu rest : Bytes) (hd : dest < 256)
    (h : WellFormedPdu d pdu) :
    specFrames d (format dest pdu ++ rest) = .frame ⟨none, dest, pdu⟩ :: specFrames d rest := by
  obtain ⟨n, hl, hn, hfl⟩ := h.frameLen
  have hc : crc (dest :: pdu) < 65536 := crc_lt _ (Bytes.WF_cons.2 ⟨hd, h.1⟩)
  have e : format dest pdu ++ rest
      = dest :: (pdu ++ [crc (dest :: pdu) % 256, crc (dest :: pdu) / 256 % 256] ++ rest) := by
    simp [format, u16le]
  rw [e, specFrames_len d dest _ n (by rw [List.append_assoc]; exact hfl dest _),
    specBody_span d dest n pdu _ _ rest hl hn, be16_u16be hc]
  simp

/-- the same through the buffered reader, for every chunking of the frame -/
theorem format_run_roundtrip (d : Dir) (dest : Nat) (pdu : Bytes) (chunks : List Bytes)
    (hd : dest < 256) (h : WellFormedPdu d pdu) (hc : chunks.flatten = format dest pdu) :
    Rtu.run d chunks = [.frame ⟨none, dest, pdu⟩] := by
  have := format_parse_roundtrip d dest pdu [] hd h
  rw [rtu_chunking_independent, hc]
  rw [List.append_nil, specFrames_short d [] (by simp)] at this
  exact this

/-- `WellFormedPdu d` is exactly "the emitted frame delimits itself under the length rule of `d`":
    the hypothesis of the round trip is also necessary (cf. `run_accept_sound`) -/
theorem wellFormedPdu_iff_span (d : Dir) (dest : Nat) (pdu : Bytes) (hw : Bytes.WF pdu)
    (hl : pdu.length ≤ 253) :
    WellFormedPdu d pdu ↔ frameSpan d (format dest pdu) = some (format dest pdu).length :=
  ⟨fun h => h.span dest, wellFormedPdu_of_span d dest pdu hw hl⟩

theorem g_xor (a b : Nat) : g (a ^^^ b) = g a ^^^ g b := Crc.g_xor a b

theorem iter_g_xor (n a b : Nat) : iter g n (a ^^^ b) = iter g n a ^^^ iter g n b :=
  Crc.iter_xor n a b

theorem g_injective (a b : Nat) (ha : a < 65536) (hb : b < 65536) (h : g a = g b) : a = b :=
  Crc.g_injective a b ha hb h

theorem iter_g_injective (n a b : Nat) (ha : a < 65536) (hb : b < 65536)
    (h : iter g n a = iter g n b) : a = b :=
  Crc.iter_injective n a b ha hb h

/-- the byte-wise CRC is `8·len` register steps applied to `init ⊕ N`, `N` the frame read as a
    little-endian number (bit order = transmission order) -/
theorem crc_eq_iter (bs : Bytes) (h : Bytes.WF bs) :
    crc bs = iter g (8 * bs.length) (0xFFFF ^^^ leNat bs) := Crc.crcFrom_eq bs h 0xFFFF

/-- the residue of a corrupted frame is the residue of the frame xor the syndrome of the error -/
theorem crc_xor_error (f e : Bytes) (hf : Bytes.WF f) (he : Bytes.WF e)
    (hl : f.length = e.length) :
    crc (xorBytes f e) = crc f ^^^ iter g (8 * f.length) (leNat e) :=
  Crc.crc_xorBytes f e he hl

/-- every burst of at most 16 bits (window `w`, shifted to bit `k` of an `n`-bit frame) has a
    non-zero syndrome -/
theorem burst_detected (n k w : Nat) (hw : 0 < w) (hw16 : w < 65536) (hk : k ≤ n) :
    iter g n (w * 2 ^ k) ≠ 0 := Crc.burst_detected n k w hw hw16 hk

theorem single_bit_detected (n k : Nat) (hk : k ≤ n) : iter g n (2 ^ k) ≠ 0 :=
  Crc.single_bit_detected n k hk

/-- every double-bit error with the two bits at most 2100 positions apart (any two bits of a
    frame of up to 262 bytes; the largest RTU frame has 256 bytes = 2048 bits, the read buffer
    260 bytes = 2080 bits) has a non-zero syndrome -/
theorem double_bit_detected (n i j : Nat) (hij : i < j) (hjn : j < n) (hd : j - i ≤ 2100) :
    iter g n (2 ^ i ^^^ 2 ^ j) ≠ 0 := Crc.double_bit_detected n i j hij hjn hd

/-- bridge: the running CRC over body and trailer is 0 exactly when the trailer is the CRC of
    the body, low byte first -/
theorem crc_trailer_zero_iff (body : Bytes) (c : Nat) (hc : c < 65536) (hb : Bytes.WF body) :
    crc (body ++ u16le c) = 0 ↔ c = crc body := Crc.crc_trailer_zero_iff body c hc hb

/-- For every frame `body ++ u16le (crc body)` and every error pattern `e` of the same length
    that flips a single bit, two bits (frames up to 262 bytes) or bits within a window of 16
    consecutive bits in transmission order, the corrupted frame does not have residue 0. -/
theorem corrupted_frame_residue (body e : Bytes) (hb : Bytes.WF body) (he : Bytes.WF e)
    (hl : e.length = body.length + 2)
    (hpat : SingleBit e ∨ Burst16 e ∨ (DoubleBit e ∧ e.length ≤ 262)) :
    crc (xorBytes (body ++ u16le (crc body)) e) ≠ 0 :=
  corrupted_residue_ne_zero _ e he (by simp [u16le]; omega) (crc_valid_frame body hb) hpat

/-- the same, as the receiver's check: the last two bytes of the corrupted frame are not the CRC
    of the bytes before them -/
theorem corrupted_frame_crc_mismatch (body e body' : Bytes) (lo hi : Nat)
    (hb : Bytes.WF body) (he : Bytes.WF e) (hl : e.length = body.length + 2)
    (hpat : SingleBit e ∨ Burst16 e ∨ (DoubleBit e ∧ e.length ≤ 262))
    (hx : xorBytes (body ++ u16le (crc body)) e = body' ++ [lo, hi]) :
    be16 hi lo ≠ crc body' := by
  have hne := corrupted_frame_residue body e hb he hl hpat
  have hxw := xorBytes_wf (body ++ u16le (crc body)) e (Bytes.WF_append.2 ⟨hb, u16le_wf _⟩) he
  rw [hx] at hne hxw
  have hlo : lo < 256 := hxw lo (by simp)
  have hhi : hi < 256 := hxw hi (by simp)
  intro hc
  apply hne
  rw [← u16le_be16 hhi hlo]
  exact (crc_trailer_zero_iff body' _ (be16_lt hhi hlo) (Bytes.WF_append.1 hxw).1).2 hc

/-
  Full statement (NOT provable, and false for this protocol):

    theorem corruption_rejected (d dest pdu e rest) (hd : dest < 256) (hp : WellFormedPdu d pdu)
        (he : Bytes.WF e) (hl : e.length = (format dest pdu).length)
        (hpat : SingleBit e ∨ Burst16 e ∨ DoubleBit e) :
        ∀ f, Event.frame f ∉ specFrames d (xorBytes (format dest pdu) e ++ rest)

  An RTU receiver without inter-frame timing delimits a frame from its function code and byte
  count.  A flipped bit in one of those bytes makes the receiver check the CRC over a *different*
  span, about which the CRC of the original frame says nothing; the example
  `byte_count_flip_accepted` below exhibits a single-bit error whose shortened span carries a
  valid CRC and is accepted.  The hypothesis `hspan` (the corrupted stream is delimited at the
  same length) is therefore forced by the protocol, not by the proof; `accept_sound` is what
  holds without it.
-/

/-- A valid frame hit by a single-bit, double-bit or ≤16-bit burst error that leaves the length
    rule's result unchanged is answered with a CRC error and nothing else: no frame event (hence
    no handler call, no reply, no accepted response), and the session ends. -/
theorem corruption_rejected_partial (d : Dir) (dest : Nat) (pdu e rest : Bytes) (hd : dest < 256)
    (hp : WellFormedPdu d pdu) (he : Bytes.WF e) (hl : e.length = (format dest pdu).length)
    (hpat : SingleBit e ∨ Burst16 e ∨ DoubleBit e)
    (hspan : frameSpan d (xorBytes (format dest pdu) e) = some (format dest pdu).length) :
    ∃ r x, r ≠ x ∧
      specFrames d (xorBytes (format dest pdu) e ++ rest) = [.err (.crcValidationFailure r x)] := by
  obtain ⟨n, hn, hn253, _⟩ := hp.frameLen
  have hfl : (format dest pdu).length = n + 4 := by rw [format_length]; omega
  have hxl : (xorBytes (format dest pdu) e).length = n + 4 := by
    rw [xorBytes_length _ _ hl.symm, hfl]
  obtain ⟨dest', pdu', lo, hi, hx, hpl'⟩ := span_decomp _ n hxl
  have hlen : frameLen? d (xorBytes (format dest pdu) e) = .len n := by
    obtain ⟨m, hm, h⟩ := frameSpan_some hspan
    rw [h, show m = n by omega]
  have hmis : be16 hi lo ≠ crc (dest' :: pdu') := by
    refine corrupted_frame_crc_mismatch (dest :: pdu) e (dest' :: pdu') lo hi
      (Bytes.WF_cons.2 ⟨hd, hp.1⟩) he (by rw [hl, format_length]; simp) ?_ (by rw [← hx]; rfl)
    rcases hpat with h | h | h
    · exact Or.inl h
    · exact Or.inr (Or.inl h)
    · exact Or.inr (Or.inr ⟨h, by omega⟩)
  refine ⟨_, _, hmis, ?_⟩
  rw [hx] at hlen ⊢
  rw [List.cons_append, List.cons_append,
    specFrames_len d dest' (pdu' ++ [lo, hi] ++ rest) n (frameLen?_append d _ rest n hlen),
    specBody_span d dest' n pdu' lo hi rest hpl' hn253, if_pos hmis]

/-- the same through the buffered reader, for every chunking of the corrupted stream -/
theorem corruption_rejected_run_partial (d : Dir) (dest : Nat) (pdu e rest : Bytes)
    (chunks : List Bytes) (hd : dest < 256)
    (hp : WellFormedPdu d pdu) (he : Bytes.WF e) (hl : e.length = (format dest pdu).length)
    (hpat : SingleBit e ∨ Burst16 e ∨ DoubleBit e)
    (hspan : frameSpan d (xorBytes (format dest pdu) e) = some (format dest pdu).length)
    (hc : chunks.flatten = xorBytes (format dest pdu) e ++ rest) :
    (∃ r x, r ≠ x ∧ Rtu.run d chunks = [.err (.crcValidationFailure r x)])
      ∧ ∀ f, Event.frame f ∉ Rtu.run d chunks := by
  obtain ⟨r, x, hrx, h⟩ := corruption_rejected_partial d dest pdu e rest hd hp he hl hpat hspan
  rw [rtu_chunking_independent, hc, h]
  exact ⟨⟨r, x, hrx, rfl⟩, by simp⟩

/-- bit numbering of the error patterns: flipping bit `b` of byte `j` (all other bytes untouched)
    is the single-bit pattern at frame bit `8j + b`, i.e. `SingleBit` ranges over all bits of all
    bytes -/
theorem singleBit_at (j m b : Nat) :
    leNat (List.replicate j 0 ++ 2 ^ b :: List.replicate m 0) = 2 ^ (8 * j + b)
      ∧ SingleBit (List.replicate j 0 ++ 2 ^ b :: List.replicate m 0) :=
  ⟨leNat_bit_at j m b, 8 * j + b, leNat_bit_at j m b⟩

/-! ## Non-vacuity: the vectors of the Rust unit tests (serial/frame.rs) -/

-- the `crc` crate's check: CRC_16_MODBUS of READ_COILS_REQUEST without trailer is 0x197A
example : crc [0x2A, 0x01, 0x00, 0x10, 0x00, 0x13] = 0x197A := by decide +kernel
example : format 0x2A [0x01, 0x00, 0x10, 0x00, 0x13]
    = [0x2A, 0x01, 0x00, 0x10, 0x00, 0x13, 0x7A, 0x19] := by decide +kernel
-- WRITE_MULTIPLE_REGISTERS_REQUEST, READ_HOLDING_REGISTERS_RESPONSE
example : format 0x2A [0x10, 0x00, 0x10, 0x00, 0x02, 0x04, 0x12, 0x34, 0x56, 0x78]
    = [0x2A, 0x10, 0x00, 0x10, 0x00, 0x02, 0x04, 0x12, 0x34, 0x56, 0x78, 0x07, 0x73] := by
  decide +kernel
example : format 0x2A [0x03, 0x06, 0x12, 0x34, 0x56, 0x78, 0x23, 0x45]
    = [0x2A, 0x03, 0x06, 0x12, 0x34, 0x56, 0x78, 0x23, 0x45, 0x30, 0x60] := by decide +kernel

-- ALL_REQUESTS in one delivery, one after the other (can_parse_request_frames / two frames)
example : Rtu.run .request
    [[0x2A, 0x01, 0x00, 0x10, 0x00, 0x13, 0x7A, 0x19,
      0x2A, 0x02, 0x00, 0x10, 0x00, 0x13, 0x3E, 0x19,
      0x2A, 0x03, 0x00, 0x10, 0x00, 0x03, 0x02, 0x15,
      0x2A, 0x04, 0x00, 0x10, 0x00, 0x03, 0xB7, 0xD5,
      0x2A, 0x05, 0x00, 0x10, 0xFF, 0x00, 0x8B, 0xE4,
      0x2A, 0x06, 0x00, 0x10, 0x12, 0x34, 0x83, 0x63,
      0x2A, 0x0F, 0x00, 0x10, 0x00, 0x0A, 0x02, 0x12, 0x34, 0x00, 0x2E,
      0x2A, 0x10, 0x00, 0x10, 0x00, 0x02, 0x04, 0x12, 0x34, 0x56, 0x78, 0x07, 0x73]]
    = [.frame ⟨none, 0x2A, [0x01, 0x00, 0x10, 0x00, 0x13]⟩,
       .frame ⟨none, 0x2A, [0x02, 0x00, 0x10, 0x00, 0x13]⟩,
       .frame ⟨none, 0x2A, [0x03, 0x00, 0x10, 0x00, 0x03]⟩,
       .frame ⟨none, 0x2A, [0x04, 0x00, 0x10, 0x00, 0x03]⟩,
       .frame ⟨none, 0x2A, [0x05, 0x00, 0x10, 0xFF, 0x00]⟩,
       .frame ⟨none, 0x2A, [0x06, 0x00, 0x10, 0x12, 0x34]⟩,
       .frame ⟨none, 0x2A, [0x0F, 0x00, 0x10, 0x00, 0x0A, 0x02, 0x12, 0x34]⟩,
       .frame ⟨none, 0x2A, [0x10, 0x00, 0x10, 0x00, 0x02, 0x04, 0x12, 0x34, 0x56, 0x78]⟩] := by
  decide +kernel

-- ALL_RESPONSES
example : Rtu.run .response
    [[0x2A, 0x01, 0x03, 0xCD, 0x6B, 0x05, 0x44, 0x99,
      0x2A, 0x02, 0x03, 0xCD, 0x6B, 0x05, 0x00, 0x99,
      0x2A, 0x03, 0x06, 0x12, 0x34, 0x56, 0x78, 0x23, 0x45, 0x30, 0x60,
      0x2A, 0x04, 0x06, 0x12, 0x34, 0x56, 0x78, 0x23, 0x45, 0x71, 0x86,
      0x2A, 0x05, 0x00, 0x10, 0xFF, 0x00, 0x8B, 0xE4,
      0x2A, 0x06, 0x00, 0x10, 0x12, 0x34, 0x83, 0x63,
      0x2A, 0x0F, 0x00, 0x10, 0x00, 0x0A, 0xD2, 0x12,
      0x2A, 0x10, 0x00, 0x10, 0x00, 0x02, 0x46, 0x16]]
    = [.frame ⟨none, 0x2A, [0x01, 0x03, 0xCD, 0x6B, 0x05]⟩,
       .frame ⟨none, 0x2A, [0x02, 0x03, 0xCD, 0x6B, 0x05]⟩,
       .frame ⟨none, 0x2A, [0x03, 0x06, 0x12, 0x34, 0x56, 0x78, 0x23, 0x45]⟩,
       .frame ⟨none, 0x2A, [0x04, 0x06, 0x12, 0x34, 0x56, 0x78, 0x23, 0x45]⟩,
       .frame ⟨none, 0x2A, [0x05, 0x00, 0x10, 0xFF, 0x00]⟩,
       .frame ⟨none, 0x2A, [0x06, 0x00, 0x10, 0x12, 0x34]⟩,
       .frame ⟨none, 0x2A, [0x0F, 0x00, 0x10, 0x00, 0x0A]⟩,
       .frame ⟨none, 0x2A, [0x10, 0x00, 0x10, 0x00, 0x02]⟩] := by
  decide +kernel

-- byte per byte (can_parse_request_frames_byte_per_byte)
example : Rtu.run .request
    [[0x2A], [0x0F], [0x00], [0x10], [0x00], [0x0A], [0x02], [0x12], [0x34], [0x00], [0x2E]]
    = [.frame ⟨none, 0x2A, [0x0F, 0x00, 0x10, 0x00, 0x0A, 0x02, 0x12, 0x34]⟩] := by
  decide +kernel

-- fails_on_wrong_crc
example : Rtu.run .request [[0x2A, 0x01, 0x00, 0x10, 0x00, 0x13, 0xFF, 0xFF]]
    = [.err (.crcValidationFailure 0xFFFF 0x197A)] := by decide +kernel

-- an exception reply; an unknown function code; a byte count that exceeds the ADU limit
example : Rtu.run .response [[0x2A, 0x83], [0x02, 0xB0], [0xF9]]
    = [.frame ⟨none, 0x2A, [0x83, 0x02]⟩] := by decide +kernel
example : Rtu.run .request [[0x2A], [0x83]] = [.err (.unknownFunctionCode 0x83)] := by
  decide +kernel
example : Rtu.run .response [[0x2A, 0x03], [0xFC]] = [.err (.frameLengthTooBig 254 253)] := by
  decide +kernel

-- the hypotheses of the round-trip and corruption theorems are satisfiable
example : WellFormedPdu .request [0x10, 0x00, 0x10, 0x00, 0x02, 0x04, 0x12, 0x34, 0x56, 0x78] := by
  decide +kernel
example : WellFormedPdu .response [0x03, 0x06, 0x12, 0x34, 0x56, 0x78, 0x23, 0x45] := by
  decide +kernel
example : WellFormedPdu .response [0x83, 0x02] := by decide +kernel
example : SingleBit [0, 0, 4, 0, 0, 0, 0, 0, 0] := ⟨18, by decide +kernel⟩
example : DoubleBit [1, 0, 0, 0, 0, 0, 0, 128] := ⟨0, 63, by decide +kernel, by decide +kernel⟩
example : Burst16 [0, 0x80, 0xFF, 0x01, 0, 0, 0, 0] :=
  ⟨15, 0x3FF, by decide +kernel, by decide +kernel, by decide +kernel⟩

-- a single-bit error in a data byte: same delimitation, rejected (instance of the theorem)
example : ∃ r x, r ≠ x ∧
    specFrames .response
      (xorBytes (format 0x2A [0x03, 0x04, 0x50, 0xF8, 0x00, 0x00]) [0, 0, 0, 0, 0, 1, 0, 0, 0])
      = [.err (.crcValidationFailure r x)] := by
  have := corruption_rejected_partial .response 0x2A [0x03, 0x04, 0x50, 0xF8, 0x00, 0x00]
    [0, 0, 0, 0, 0, 1, 0, 0, 0] [] (by decide) (by decide) (by decide) (by decide +kernel)
    (Or.inl ⟨40, by decide⟩) (by decide +kernel)
  rw [List.append_nil] at this
  exact this

/-- Why the length hypothesis cannot be dropped: the valid response
    `2A 03 04 50 F8 00 00 crc` (two registers 0x50F8, 0x0000) with a *single* flipped bit in its
    byte count (`04 → 00`) is delimited as the 5-byte frame `2A 03 00 50 F8`, whose trailer
    `50 F8` happens to be the CRC of `2A 03 00`: the receiver accepts a frame that was never
    sent.  This is a limit of RTU framing by length (no inter-frame timing), not a discrepancy
    between model and code; the implementation behaves the same (replayed by the harness). -/
theorem byte_count_flip_accepted :
    WellFormedPdu .response [0x03, 0x04, 0x50, 0xF8, 0x00, 0x00]
    ∧ SingleBit [0, 0, 4, 0, 0, 0, 0, 0, 0]
    ∧ Rtu.run .response
        [xorBytes (format 0x2A [0x03, 0x04, 0x50, 0xF8, 0x00, 0x00]) [0, 0, 4, 0, 0, 0, 0, 0, 0]]
      = [.frame ⟨none, 0x2A, [0x03, 0x00]⟩, .err (.unknownFunctionCode 0x00)] :=
  ⟨by decide +kernel, ⟨18, by decide +kernel⟩, by decide +kernel⟩

/-- a byte that `FunctionCode::get` does not know has no length rule: `length_mode` tests the
    same eight values -/
theorem lengthMode_unknown (b : Nat) (h : Fc.ofByte b = none) :
    lengthMode .request b = .unknown ∧ (b &&& 0x80 = 0 → lengthMode .response b = .unknown) := by
  have hb : b ≠ 1 ∧ b ≠ 2 ∧ b ≠ 3 ∧ b ≠ 4 ∧ b ≠ 5 ∧ b ≠ 6 ∧ b ≠ 15 ∧ b ≠ 16 := by
    refine ⟨?_, ?_, ?_, ?_, ?_, ?_, ?_, ?_⟩ <;> rintro rfl <;> cases h
  simp [lengthMode, hb]

/-- Every arm of `RtuParser::length_mode` (regenerated from the Rust source on every run) is the
    model's answer for that direction and function code; all sixteen (direction, function) pairs
    have an arm; and a byte that is no function code has no length rule (`unknown`) — in responses
    unless its exception bit is set. -/
theorem length_mode_table_correct :
    (∀ row ∈ Gen.lengthMode,
      lengthMode (if row.1 then .response else .request) row.2.1.toByte
        = (if row.2.2.1 then .offset row.2.2.2 else .fixed row.2.2.2)) ∧
    (∀ resp : Bool, ∀ fc : Fc, ∃ row ∈ Gen.lengthMode, row.1 = resp ∧ row.2.1 = fc) ∧
    (∀ b : Fin 256, Fc.ofByte b.val = none →
      lengthMode .request b.val = .unknown ∧
      (b.val &&& 0x80 = 0 → lengthMode .response b.val = .unknown)) := by
  refine ⟨by decide +kernel, ?_, fun b => lengthMode_unknown b.val⟩
  intro resp fc; cases resp <;> cases fc <;> decide +kernel

/-- the frame constants regenerated from serial/frame.rs and tcp/frame.rs have the values the model
    is written with (`Rtu.MAX_ADU` = 253 and `CAP` = 260 among them; the statement compares with
    the literals, not with the model's constants) -/
theorem frame_constants_correct :
    Gen.rtuHeaderLength = 1 ∧ Gen.rtuFunctionCodeLength = 1 ∧ Gen.rtuCrcLength = 2
      ∧ Gen.rtuMaxFrameLength = 256 ∧ Gen.maxAduLength = 253
      ∧ Gen.readBufferCapacity = 260 := by decide

end Rodbus.C06
