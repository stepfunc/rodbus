import RodbusModel.Lemmas.Ffi
import RodbusModel.Gen.FfiTables
/-
  C19 — The C-ABI point database behaves as one map per point type; a client read touching an
  absent point is answered with exception 02; a transaction's changes become visible to clients
  atomically.

  Model: `Model/Ffi.lean` (`Db`, `dbHandler`, the lock model `LState`); reference: the abstract
  map `Spec.AMap`.  The tie to the Rust sources is (a) the generated tables below (which helper
  and which map every `rodbus_database_*` function uses, the four read callbacks, the lock around
  the transaction callback) and (b) the `ffi db` / `ffi atomic` correspondence runs.
-/
namespace Rodbus.C19
open Rodbus.Ffi Rodbus.Ffi.Spec

/-- for every sequence of add / update / delete / get over the four point types the results are
    those of the abstract `Table → Index → Option Value` map (add succeeds iff absent, update
    and delete iff present, get fails iff absent — `AMap.step`), and the database afterwards
    represents the abstract map afterwards. The four maps are independent because
    `AMap.set t i` changes the function at table `t` only. -/
theorem db_refines_map (db : Db) (ops : List DbOp) :
    (db.run ops).2 = (db.abs.run ops).2 ∧ (db.run ops).1.abs = (db.abs.run ops).1 :=
  Db.run_refines db ops

theorem add_succeeds_iff_absent (m : AMap) (t : Table) (i v : Nat) :
    ((m.step (.add t i v)).2 = .flag true ↔ m t i = none) ∧
    ((m.step (.add t i v)).2 = .flag true → (m.step (.add t i v)).1 t i = some v) := by
  cases h : m t i <;> simp [AMap.step, AMap.set, h]

theorem update_succeeds_iff_present (m : AMap) (t : Table) (i v : Nat) :
    ((m.step (.update t i v)).2 = .flag true ↔ (m t i).isSome) ∧
    ((m.step (.update t i v)).2 = .flag true → (m.step (.update t i v)).1 t i = some v) := by
  cases h : m t i <;> simp [AMap.step, AMap.set, h]

theorem delete_succeeds_iff_present (m : AMap) (t : Table) (i : Nat) :
    ((m.step (.delete t i)).2 = .flag true ↔ (m t i).isSome) ∧
    ((m.step (.delete t i)).1 t i = none) := by
  cases h : m t i <;> simp [AMap.step, AMap.set, h]

theorem get_fails_iff_absent (m : AMap) (t : Table) (i : Nat) :
    ((m.step (.get t i)).2 = .err ↔ m t i = none) ∧ (m.step (.get t i)).1 = m := by
  cases h : m t i <;> simp [AMap.step, h]

theorem tables_independent (m : AMap) (op : DbOp) (t' : Table) (i' : Nat)
    (h : match op with
      | .add t i _ | .update t i _ | .delete t i | .get t i => ¬ (t' = t ∧ i' = i)) :
    (m.step op).1 t' i' = m t' i' := by
  obtain ⟨f, hf⟩ := AMap.step_eq op
  rw [hf]; cases op <;> exact if_neg h

theorem db_tables_independent (db : Db) (ops : List DbOp) (t' : Table)
    (h : ∀ op ∈ ops, match op with
      | .add t _ _ | .update t _ _ | .delete t _ | .get t _ => t ≠ t') (i' : Nat) :
    (db.run ops).1.find t' i' = db.find t' i' := by
  rw [Db.find_run, ← show db.abs t' i' = db.find t' i' from rfl]
  generalize db.abs = m
  induction ops generalizing m with
  | nil => rfl
  | cons op ops ih =>
    obtain ⟨hop, hops⟩ := List.forall_mem_cons.mp h
    rw [AMap.run, ih hops]
    apply tables_independent
    cases op <;> exact fun h1 => hop h1.1.symm

/-- the reply of the server to a read is a function of the outcome of the atomic read program -/
def replyOfRead (t : Table) (r : Range) : RdOut → Bytes
  | .error e => exceptionPdu (readReq t r).fc.toByte e
  | .ok vs =>
    if t.isBit then (readReq t r).fc.toByte :: numBytesForBits r.count :: packBits (vs.map bitOfNat)
    else (readReq t r).fc.toByte :: (2 * r.count) :: packRegs vs

/-- a read of table `t` through the handler built from the database, for all four tables at once:
    reply, calls and state in terms of the one read loop `readSeq (readPoint db t)` -/
theorem getReply_read (app : WriteApp) (u : Nat) (db : Db) (t : Table) (r : Range) :
    getReply (dbHandler app) u db (readReq t r) =
      (replyOfRead t r (RdOut.ofExcept (readSeq (readPoint db t) r.addresses).2),
       (readSeq (readPoint db t) r.addresses).1.map (readCall t u), db) := by
  have bits (t' : Table) := readSeq_map bitOfNat (readPoint db t') r.addresses
  cases t <;> simp only [getReply, readReq, dbHandler, bits] <;>
    cases (readSeq (readPoint db _) r.addresses).2 <;> rfl

/-- the model's handler answers an absent point with the byte of `IllegalDataAddress` = 2 -/
theorem absent_is_exception_2 (db : Db) (t : Table) (a : Nat) (h : db.find t a = none) :
    readPoint db t a = .error 2 := by
  simp [readPoint, h, ExCode.toByte]

/-- the server model with the handler built from the database answers a read that touches an
    absent point with exception 02, leaves the database alone, and has queried exactly the
    ascending prefix of the range up to and including the first absent point (C02) -/
theorem absent_point_exception_02 (app : WriteApp) (u : Nat) (db : Db) (t : Table) (r : Range)
    (a : Nat) (ha : a ∈ r.addresses) (habs : db.find t a = none) :
    ∃ pre y post,
      r.addresses = pre ++ y :: post ∧ (∀ z ∈ pre, (db.find t z).isSome) ∧ db.find t y = none ∧
      getReply (dbHandler app) u db (readReq t r) =
        (exceptionPdu (readReq t r).fc.toByte 2, (pre ++ [y]).map (readCall t u), db) := by
  obtain ⟨pre, y, post, e', h1, h2, h3, h4⟩ :=
    readSeq_first_error (readPoint db t) r.addresses a ha 2 (absent_is_exception_2 db t a habs)
  obtain ⟨rfl, hy⟩ := readPoint_error h3
  refine ⟨pre, y, post, h1, fun z hz => ?_, hy, by rw [getReply_read, h4]; rfl⟩
  obtain ⟨v, hv⟩ := h2 z hz
  rw [readPoint_ok hv]; rfl

/-- serialisability of the lock model (any number of actors, each a transaction or a read).
    MODELLING HYPOTHESIS — lock scope: a transaction (all calls made by one `DatabaseCallback`)
    and a client request (all point lookups of one reply) are each executed between one acquire
    and one release of the handler mutex; this is what `LState.sched` encodes (a step of a
    non-holder has no effect while the lock is held).  That the Rust code has these lock scopes
    is a fact about `server_update_database` / `SessionTask` which is extracted textually
    (`Gen.Ffi.transactionUnderLock` in `database_tables` below) for the former and sampled by the
    `ffi atomic` stress run.

    For EVERY schedule (any list of actor ids, of any length) the completed actors, in order of
    release, are a serial execution from the initial database: each logged outcome is the outcome
    of running that actor's whole program on the database left by the ones logged before it; when
    nobody holds the lock the database is the result of that serial execution; and only the given
    actors with their own programs appear in the log. -/
theorem transaction_atomic (db0 : Db) (actors : List (Nat × Prog)) (schedule : List Nat) :
    let s := (LState.init db0 actors).run schedule
    ∃ base,
      serial db0 (s.log.map (·.2.1)) = (base, s.log.map (·.2.2)) ∧
      (s.holder = none → s.db = base) ∧
      (∀ e ∈ s.log, (e.1, e.2.1) ∈ actors) := by
  obtain ⟨base, inv⟩ := (LInv.init db0 actors).run schedule
  exact ⟨base, inv.serial_log, inv.idle, inv.log_from⟩

/-- consequence: no client request observes part of a transaction — every completed read saw the
    database produced by a whole number of transactions (those released before it), and its reply
    is the server's reply on that database -/
theorem read_sees_whole_transactions (db0 : Db) (actors : List (Nat × Prog)) (schedule : List Nat)
    (pre : List (Nat × Prog × Outcome)) (id : Nat) (t : Table) (r : Range) (out : Outcome)
    (post : List (Nat × Prog × Outcome))
    (hlog : ((LState.init db0 actors).run schedule).log = pre ++ (id, .read t r.addresses, out) :: post) :
    let txs := (pre.map (·.2.1)).filter fun p => match p with | .tx _ => true | .read _ _ => false
    let seen := (serial db0 txs).1
    out = .read (RdOut.ofExcept (readSeq (readPoint seen t) r.addresses).2) ∧
    ∀ app u, ∃ o, out = .read o ∧ readReply app u seen t r = replyOfRead t r o := by
  obtain ⟨base, h, _, _⟩ := transaction_atomic db0 actors schedule
  rw [hlog, List.map_append, List.map_append, List.map_cons, List.map_cons] at h
  have h2 := (serial_split ..).symm.trans (congrArg Prod.snd h)
  have hout := (List.cons.inj (List.append_inj_right h2 (by
    rw [serial_length, List.length_map, List.length_map]))).1
  rw [Prog.atomic, serial_db_reads] at hout
  exact ⟨hout.symm, fun app u => ⟨_, hout.symm, congrArg Prod.fst (getReply_read app u _ t r)⟩⟩

/-- the sixteen `rodbus_database_*` functions: each uses the helper of its name on the map of
    its point type (rows: function, helper, map) -/
def expectedDatabaseFns : List (String × String × String) :=
  [("add", "add_entry"), ("get", "get_entry"), ("update", "update_entry"), ("delete", "remove")].flatMap
    fun (op, helper) =>
      [("coil", "coils"), ("discrete_input", "discrete_input"),
       ("holding_register", "holding_registers"), ("input_register", "input_registers")].map
        fun (ty, field) => (op ++ "_" ++ ty, helper, field)

/-- every database function is wired to the right helper and map, the four read callbacks look
    the address up in the map of their type and answer an absent point with
    `IllegalDataAddress`, and `server_update_database` runs the transaction callback under the
    handler lock -/
theorem database_tables :
    sameRows Gen.Ffi.databaseFns expectedDatabaseFns = true ∧
    sameRows Gen.Ffi.readCallbackArms
      [("read_coil", "coils", "Ok(*x)", "Err(ExceptionCode::IllegalDataAddress)"),
       ("read_discrete_input", "discrete_input", "Ok(*x)", "Err(ExceptionCode::IllegalDataAddress)"),
       ("read_holding_register", "holding_registers", "Ok(*x)", "Err(ExceptionCode::IllegalDataAddress)"),
       ("read_input_register", "input_registers", "Ok(*x)", "Err(ExceptionCode::IllegalDataAddress)")] = true ∧
    Gen.Ffi.transactionUnderLock = true := by
  decide +kernel

/-- a database with two registers; a read of three touches an absent point -/
example :
    getReply (dbHandler noWrites) 1 ({ holding := [(5, 77), (6, 78)] } : Db) (readReq .holding ⟨5, 3⟩) =
      ([0x83, 2], [.readHoldingRegister 1 5, .readHoldingRegister 1 6, .readHoldingRegister 1 7],
       { holding := [(5, 77), (6, 78)] }) := by
  decide +kernel

/-- add / add again / update / delete / delete again / get, with the results the property names -/
example :
    (({} : Db).run [.add .coils 1 1, .add .coils 1 0, .get .coils 1, .update .coils 1 0,
        .get .coils 1, .delete .coils 1, .delete .coils 1, .get .coils 1, .update .coils 1 1]).2 =
      [.flag true, .flag false, .val 1, .flag true, .val 0, .flag true, .flag false, .err,
       .flag false] := by
  decide +kernel

/-- a schedule that tries to interleave a two-register transaction with a two-register read: the
    reader is parked while the transaction holds the lock and sees both new values -/
example :
    let db0 : Db := { holding := [(0, 1), (1, 1)] }
    let actors := [(10, Prog.tx [.update .holding 0 2, .update .holding 1 2]), (20, Prog.read .holding [0, 1])]
    ((LState.init db0 actors).run [10, 10, 20, 10, 20, 10, 20, 20, 20, 20]).log.map (·.2.2) =
      [.tx [.flag true, .flag true], .read (.ok [2, 2])] := by
  decide +kernel

/-- without the mutex the same interleaving tears the read (old value, new value): the lock-scope
    hypothesis is what the atomicity rests on -/
example :
    unlockedRead ({ holding := [(0, 1), (1, 1)] } : Db) .holding 0 1
      [.update .holding 0 2, .update .holding 1 2] = .ok [1, 2] := by
  decide +kernel

/-- the database handle handed to a transaction callback stands for the unit's one database:
    what a transaction leaves is what the next one finds, so for any number of successive
    transactions through one server handle, where the boundaries fall changes nothing -/
theorem transaction_boundaries_invisible (db : Db) (txs : List (List DbOp)) :
    db.runAll txs = db.run txs.flatten := by
  induction txs generalizing db with
  | nil => rfl
  | cons tx rest ih =>
    simp only [Db.runAll, List.flatten_cons, Db.run_append, ih]

theorem successive_transactions_refine_map (db : Db) (txs : List (List DbOp)) :
    (db.runAll txs).2 = (db.abs.run txs.flatten).2 ∧ (db.runAll txs).1.abs = (db.abs.run txs.flatten).1 := by
  rw [transaction_boundaries_invisible]
  exact Db.run_refines db _

/-- an add in one transaction, a get / update in the next -/
example :
    (({} : Db).runAll [[.add .holding 1 7], [.update .holding 1 9, .get .holding 1], [], [.delete .holding 1]]).2 =
      [.flag true, .flag true, .val 9, .flag true] := by
  decide +kernel

/-! ### disjoint writers (`ffi atomic … w`)

  Transactions (and client writes, which run under the same lock) that touch disjoint points
  commute: applied in either order they leave the same map and each one returns the results it
  would return alone — nothing one of them did is undone by the other.  With `transaction_atomic`
  (the completed actors are a serial execution) and `incr_applied_once` this is the model's side
  of the `lost=0` field of `ffi atomic`; that the counter of thread t ends at the number of its
  transactions and every acknowledged client write is still there is what that run checks, no
  theorem here states it. -/

theorem disjoint_ops_commute (m : AMap) (p q : DbOp) (h : p.point ≠ q.point) :
    ((m.step p).1.step q).1 = ((m.step q).1.step p).1 ∧
    ((m.step p).1.step q).2 = (m.step q).2 ∧ ((m.step q).1.step p).2 = (m.step p).2 := by
  obtain ⟨f, hf⟩ := AMap.step_eq p
  obtain ⟨g, hg⟩ := AMap.step_eq q
  generalize p.point = P at *
  generalize q.point = Q at *
  -- neither sees the other's write, and writes to different points commute
  simp only [hf, hg, AMap.set_ne m h, AMap.set_ne m h.symm, and_true]
  exact AMap.set_comm m h _ _

theorem step_run_commute (m : AMap) (p : DbOp) (b : List DbOp) (h : ∀ q ∈ b, p.point ≠ q.point) :
    ((m.step p).1.run b).1 = ((m.run b).1.step p).1 ∧
    ((m.step p).1.run b).2 = (m.run b).2 ∧ ((m.run b).1.step p).2 = (m.step p).2 := by
  induction b generalizing m with
  | nil => simp [AMap.run]
  | cons q qs ih =>
    obtain ⟨c1, c2, c3⟩ := disjoint_ops_commute m p q (h q (List.mem_cons_self ..))
    obtain ⟨i1, i2, i3⟩ := ih (m.step q).1 (fun x hx => h x (List.mem_cons_of_mem _ hx))
    simp only [AMap.run]
    rw [c1, c2, i1, i2, i3, c3]
    exact ⟨rfl, rfl, rfl⟩

theorem disjoint_writers_commute (m : AMap) (a b : List DbOp)
    (h : ∀ p ∈ a, ∀ q ∈ b, p.point ≠ q.point) :
    ((m.run a).1.run b).1 = ((m.run b).1.run a).1 ∧
    ((m.run a).1.run b).2 = (m.run b).2 ∧ ((m.run b).1.run a).2 = (m.run a).2 := by
  induction a generalizing m with
  | nil => simp [AMap.run]
  | cons p ps ih =>
    obtain ⟨c1, c2, c3⟩ := step_run_commute m p b (h p (List.mem_cons_self ..))
    obtain ⟨i1, i2, i3⟩ := ih (m.step p).1 (fun x hx => h x (List.mem_cons_of_mem _ hx))
    simp only [AMap.run]
    rw [i1, i2, c2, ← c1, i3, c3]
    exact ⟨rfl, rfl, rfl⟩

theorem db_disjoint_writers_commute (db : Db) (a b : List DbOp)
    (h : ∀ p ∈ a, ∀ q ∈ b, p.point ≠ q.point) (t : Table) (i : Nat) :
    ((db.run a).1.run b).1.find t i = ((db.run b).1.run a).1.find t i ∧
    ((db.run a).1.run b).2 = (db.run b).2 ∧ ((db.run b).1.run a).2 = (db.run a).2 := by
  have ra := Db.run_refines db a
  have rb := Db.run_refines db b
  obtain ⟨c1, c2, c3⟩ := disjoint_writers_commute db.abs a b h
  rw [Db.find_run, Db.find_run, (Db.run_refines _ b).1, (Db.run_refines _ a).1, ra.2, rb.2, c1, c2,
    c3, ra.1, rb.1]
  exact ⟨rfl, rfl, rfl⟩

theorem incr_applied_once (db : Db) (i v : Nat) (h : db.find .holding i = some v) :
    (db.incr i).find .holding i = some ((v + 1) % 65536) ∧
    ∀ t' i', ¬ (t' = .holding ∧ i' = i) → (db.incr i).find t' i' = db.find t' i' := by
  have ha : db.abs .holding i = some v := h
  have key : ∀ t' i', (db.incr i).find t' i' = (db.abs.set .holding i (some ((v + 1) % 65536))) t' i' := by
    intro t' i'
    rw [Db.incr, Db.find_run]
    simp [incrOps, h, AMap.run, AMap.step, ha]
  exact ⟨by simp [key, AMap.set], fun t' i' hne => by simp [key, AMap.set, hne]; rfl⟩

/-- two counters, two increments each, interleaved in two different orders: same database -/
example :
    let db : Db := { holding := [(200, 0), (201, 65535)] }
    (((db.incr 200).incr 201).incr 200).incr 201 = (((db.incr 201).incr 201).incr 200).incr 200 ∧
    ((((db.incr 200).incr 201).incr 200).incr 201).find .holding 200 = some 2 ∧
    ((((db.incr 200).incr 201).incr 200).incr 201).find .holding 201 = some 1 := by
  decide +kernel

end Rodbus.C19
