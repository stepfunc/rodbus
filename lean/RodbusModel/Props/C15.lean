import RodbusModel.Model.Tracker
/-
  C15 — Server sessions: bounded, oldest evicted (the `SessionTracker` part; the isolation and
  shutdown parts are stated over the accept-loop model in Props/C15Net and exercised over loopback).
-/
namespace Rodbus.C15
open Rodbus.Tracker

/-- strictly ascending, as the keys of the `BTreeMap` are -/
def Sorted (l : List Nat) : Prop := l.Pairwise (· < ·)

/-- what `add` and `remove` keep: the bound itself, and the ids ascending below `next`, which makes
    the head of the list the session accepted first (`head_lt`) and a new id fresh (`fresh_id`) -/
def Inv (t : Tracker) : Prop :=
  1 ≤ t.max ∧ t.ids.length ≤ t.max ∧ Sorted t.ids ∧ ∀ i ∈ t.ids, i < t.next

theorem sorted_append_last {l : List Nat} {n : Nat} (h : Sorted l) (hb : ∀ i ∈ l, i < n) :
    Sorted (l ++ [n]) :=
  List.pairwise_append.mpr ⟨h, List.pairwise_singleton _ _,
    fun a ha _ hb' => List.mem_singleton.mp hb' ▸ hb a ha⟩

theorem new_max (m : Nat) : (new m).max = max 1 m := by
  show (if m = 0 then 1 else m) = max 1 m
  split
  · subst m; rfl
  · exact (Nat.max_eq_right (Nat.pos_of_ne_zero ‹_›)).symm

theorem new_inv (m : Nat) : Inv (new m) :=
  ⟨new_max m ▸ Nat.le_max_left 1 m, Nat.zero_le _, List.Pairwise.nil, fun _ h => nomatch h⟩

theorem add_ids (t : Tracker) :
    (add t).2.ids = (if t.ids.length ≥ t.max then t.ids.drop 1 else t.ids) ++ [t.next] := rfl

theorem mem_add_ids {t : Tracker} {i : Nat} (h : i ∈ (add t).2.ids) : i ∈ t.ids ∨ i = t.next := by
  rw [add_ids, List.mem_append, List.mem_singleton] at h
  refine h.imp_left fun h => ?_
  split at h
  · exact List.mem_of_mem_drop h
  · exact h

theorem add_inv (t : Tracker) (h : Inv t) : Inv (add t).2 := by
  obtain ⟨h1, h2, h3, h4⟩ := h
  show Inv ⟨t.max, t.next + 1, (if t.ids.length ≥ t.max then t.ids.drop 1 else t.ids) ++ [t.next]⟩
  -- the ids that stay are a sublist of the old ones and leave room for one more
  generalize hk : (if t.ids.length ≥ t.max then t.ids.drop 1 else t.ids) = kept
  have hsub : kept.Sublist t.ids := by
    rw [← hk]; split
    · exact List.drop_sublist 1 _
    · exact List.Sublist.refl _
  have hlen : kept.length + 1 ≤ t.max := by
    rw [← hk]; split
    · rw [List.length_drop]; omega
    · omega
  refine ⟨h1, by rw [List.length_append]; exact hlen,
    sorted_append_last (h3.sublist hsub) fun i hi => h4 i (hsub.subset hi), fun i hi => ?_⟩
  rcases List.mem_append.mp hi with hi | hi
  · exact Nat.lt_succ_of_lt (h4 i (hsub.subset hi))
  · cases List.mem_singleton.mp hi; exact Nat.lt_succ_self _

theorem remove_inv (t : Tracker) (id : Nat) (h : Inv t) : Inv (remove t id) := by
  obtain ⟨h1, h2, h3, h4⟩ := h
  refine ⟨h1, ?_, ?_, ?_⟩
  · exact Nat.le_trans (List.length_filter_le _ _) h2
  · exact h3.filter _
  · intro i hi
    exact h4 i (List.mem_filter.mp hi).1

theorem run_inv (ops : List Op) (t : Tracker) (h : Inv t) :
    Inv (run t ops) ∧ (run t ops).max = t.max :=
  List.foldlRecOn (motive := fun u => Inv u ∧ u.max = t.max) ops _ ⟨h, rfl⟩ fun u ⟨hu, hm⟩ op _ => by
    cases op
    · exact ⟨add_inv u hu, hm⟩
    · exact ⟨remove_inv u _ hu, hm⟩

/-- after every sequence of `add`/`remove` the number of live sessions is at most
    `max(1, maxSessions)` -/
theorem tracker_bound (m : Nat) (ops : List Op) :
    (run (new m) ops).ids.length ≤ (if m = 0 then 1 else m) := by
  obtain ⟨h, hm⟩ := run_inv ops (new m) (new_inv m)
  exact Nat.le_trans h.2.1 (Nat.le_of_eq hm)

/-- the head of the ascending id list is the smallest id: the session that is evicted is the one
    accepted first -/
theorem head_lt {t : Tracker} (h : Inv t) {o : Nat} {r : List Nat} (hids : t.ids = o :: r) :
    ∀ i ∈ r, o < i :=
  (List.pairwise_cons.mp (hids ▸ h.2.2.1)).1

/-- when the tracker is full, `add` removes exactly the smallest id (the earliest-added live
    session, because ids only grow) and nothing else; otherwise nothing is removed. The new
    session always gets a fresh id. -/
theorem evicts_oldest (t : Tracker) (h : Inv t) :
    (add t).2.ids = (if t.ids.length ≥ t.max then t.ids.drop 1 else t.ids) ++ [t.next] ∧
    (∀ i ∈ t.ids, i < t.next) ∧
    (t.ids.length ≥ t.max → ∀ i ∈ t.ids.drop 1, t.ids.head? = some i ∨ ∃ o, t.ids.head? = some o ∧ o < i) := by
  refine ⟨rfl, h.2.2.2, fun _ i hi => ?_⟩
  cases hl : t.ids with
  | nil => rw [hl] at hi; cases hi
  | cons a r => exact .inr ⟨a, rfl, head_lt h hl i (by rwa [hl] at hi)⟩

/-- a late `remove` of an id that is not live (e.g. one that was evicted) changes nothing -/
theorem remove_absent (t : Tracker) (id : Nat) (h : id ∉ t.ids) : remove t id = t :=
  congrArg (Tracker.mk t.max t.next)
    (List.filter_eq_self.mpr fun _ ha => decide_eq_true fun e => h (e ▸ ha))

theorem fresh_id (t : Tracker) (h : Inv t) : (add t).1 ∉ t.ids :=
  fun hm => Nat.lt_irrefl _ (h.2.2.2 _ hm)

theorem remove_comm (t : Tracker) (i j : Nat) :
    remove (remove t i) j = remove (remove t j) i := by
  simp only [remove, List.filter_filter]
  congr 1
  apply List.filter_congr
  intro x _
  exact Bool.and_comm _ _

/-- below the limit, a session that ends before any other begins leaves the ids as they were:
    its id is above every other one -/
theorem remove_add_ids {t : Tracker} (h : Inv t) (hroom : t.ids.length < t.max) :
    (remove (add t).2 t.next).ids = t.ids := by
  show (add t).2.ids.filter (· ≠ t.next) = t.ids
  rw [add_ids, if_neg (Nat.not_le.mpr hroom), List.filter_append,
    List.filter_eq_self.mpr fun i hi => decide_eq_true (Nat.ne_of_lt (h.2.2.2 i hi))]
  simp

example : (run (new 2) [.add, .add, .add, .remove 1, .add, .remove 0]).ids = [2, 3] := by decide +kernel
example : (run (new 0) [.add, .add]).ids = [1] := by decide +kernel
example : Inv (run (new 2) [.add, .add, .add]) := (run_inv _ _ (new_inv 2)).1

end Rodbus.C15
