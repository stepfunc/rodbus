import RodbusModel.Props.C10
/-
  C12  A request fails with a timeout exactly when its own timeout has elapsed since transmission
  without a complete valid reply; it succeeds if the reply completes any time strictly before that.
  A timed-out request leaves the connection usable.  N consecutive timeouts drop the connection,
  any other outcome restarts the count; without a limit never.

  Model and abstraction as in Props/C10.  Time is the virtual clock of the model (`now`, in ms);
  `TEff.time` / `moveClock` never move it past the deadline of the timer the task sleeps on, and
  the script is lock-step: every delivery of the peer is processed before the clock moves again.
-/
namespace Rodbus.Client

/-- The deadline of the request in flight is fixed when the request has been written
    (`write completion time + its own timeout`) and never changes afterwards. -/
theorem deadline_is_write_time_plus_timeout {c c' : Core} (t : TEff c c') (m : Nat) (r : Req)
    (tx dl : Nat) (h : c'.pos = .inflight m r tx dl) :
    c.pos = .inflight m r tx dl
      ∨ (c.pos = .idle m ∧ dl = c.now + r.timeout ∧ tx = c.tx
          ∧ ∃ bytes, c'.sent = (r.rid, tx, bytes) :: c.sent) :=
  teff_deadline c c' t m r tx dl h

/-- The clock never passes the deadline of the request in flight: in every reachable state
    `now ≤ deadline`. -/
theorem clock_stops_at_deadline {σ : Type} (F : Framing σ) (cap maxTo : Nat) (d : Decode)
    (coins : List Bool) (steps : List Step) (s : State σ)
    (hs : s = runState F (State.init F cap maxTo d coins) steps) (m : Nat) (r : Req) (tx dl : Nat)
    (h : s.pos = .inflight m r tx dl) : s.now ≤ dl :=
  (tidy_reach _ (reach_of_eq hs)).deadline h

/-- `timeout_iff`, first half: a timeout completion is logged only for the request in flight and
    only at the instant `write time + timeout` (its `@time` is the deadline). -/
theorem timeout_only_at_deadline {c c' : Core} (hr : Reach c) (t : TEff c c') (rid : Rid)
    (st : Style) (time : Nat) (h : LogEntry.done rid st .timeout time ∈ c'.log) :
    LogEntry.done rid st .timeout time ∈ c.log
      ∨ ∃ m r tx dl, c.pos = .inflight m r tx dl ∧ r.rid = rid ∧ c.now = dl ∧ time = dl :=
  error_meaning_timeout hr t rid st time h

/-- `timeout_iff`, second half (strictly before the deadline).  What the response loop does with
    what the reader delivers:
    * a complete frame with the right tx id (any frame on RTU): the request completes now with the
      result of `Request::handle_response` on that frame — success if it is a valid reply;
    * a read or framing error: the request fails now with that error;
    * a frame with another tx id: skipped;
    * nothing complete yet: nothing happens (no completion, in particular no timeout). -/
theorem before_deadline {σ : Type} (F : Framing σ) (s s' : State σ) (m : Nat) (q : Req)
    (tx dl : Nat) (r : ReadRes) (hr : pollReader F s m = (r, s')) (hnow : s.now < dl) :
    (∀ f, r = .frame f → txMatches f tx = true →
        tickInflight F s m q tx dl = some (finish s' m q (respResult q.req f.pdu)))
      ∧ (∀ res, r = .fail res → tickInflight F s m q tx dl = some (finish s' m q res))
      ∧ (∀ f, r = .frame f → txMatches f tx = false → tickInflight F s m q tx dl = some s')
      ∧ (r = .blocked → ∀ t, tickInflight F s m q tx dl = some t → t = s') := by
  have h := tickInflight_eq F s m q tx dl
  rw [congrArg Prod.fst hr, congrArg Prod.snd hr, decide_eq_false (Nat.not_le.mpr hnow)] at h
  refine ⟨?_, ?_, ?_, ?_⟩
  · intro f hf hm; subst hf; rw [h]; simp [inflightReader, hm]
  · intro res hf; subst hf; rw [h]; simp [inflightReader]
  · intro f hf hm; subst hf; rw [h]; simp [inflightReader, hm]
  · intro hb t ht; subst hb; rw [h] at ht
    simp only [Bool.false_eq_true, if_false] at ht
    split at ht
    · cases ht; rfl
    · cases ht

/-- a completion by a frame carries the time of the delivery, is never a timeout, resets the
    timeout count and leaves the session running -/
theorem reply_completes_at_delivery_time {σ : Type} (s : State σ) (m : Nat) (q : Req)
    (pdu : Bytes) :
    (finish s m q (respResult q.req pdu)).log
        = LogEntry.done q.rid q.style (respResult q.req pdu) s.now :: s.log
      ∧ (finish s m q (respResult q.req pdu)).pos = .idle m
      ∧ (finish s m q (respResult q.req pdu)).nto = 0
      ∧ respResult q.req pdu ≠ .timeout := by
  obtain ⟨⟨-, -, h2⟩, -, h1⟩ := respResult_ne q.req pdu
  unfold finish
  rcases afterRequest_cases (complete s q (respResult q.req pdu)) m (respResult q.req pdu)
    with ⟨k, hk, _⟩ | ⟨ht, _⟩ | ⟨_, n, he, hn, _⟩
  · rw [h1] at hk; cases hk
  · exact absurd ht h2
  · rw [he, hn h2]
    simp only [complete, emit, true_and]
    exact h2

/-- `timeout_iff`, at the deadline: with nothing complete to read the request times out. -/
theorem at_deadline_timeout {σ : Type} (F : Framing σ) (s s' : State σ) (m : Nat) (q : Req)
    (tx dl : Nat) (hr : pollReader F s m = (.blocked, s')) (hnow : dl ≤ s.now) :
    tickInflight F s m q tx dl = some (finish s' m q .timeout) := by
  rw [tickInflight_eq, congrArg Prod.fst hr, congrArg Prod.snd hr, decide_eq_true hnow]
  rfl

/-- At the deadline instant with a complete frame or error readable at the same instant the polling
    order of `tokio::select!` decides; both outcomes are possible in the implementation.  (The
    script being lock-step, such a state occurs only while the tasks run inside a script step:
    after every script the reader of the request in flight has nothing to deliver,
    `reachable_quiet`.) -/
theorem at_deadline_race {σ : Type} (F : Framing σ) (s s' : State σ) (m : Nat) (q : Req)
    (tx dl : Nat) (r : ReadRes) (hr : pollReader F s m = (r, s')) (hb : r ≠ .blocked)
    (hnow : dl ≤ s.now) :
    tickInflight F s m q tx dl =
      if (flip s).1 then some (finish (flip s).2 m q .timeout)
      else some (inflightReader { s' with coins := (flip s).2.coins } m q tx r) := by
  rw [tickInflight_eq, pollReader_flip, congrArg Prod.fst hr, congrArg Prod.snd hr,
    decide_eq_true hnow]
  cases r with
  | blocked => exact absurd rfl hb
  | _ => rfl

/-- The two directions together.
    (⇒) Whenever a step of the task logs a timeout completion in a reachable state, that request is
    the one in flight and the clock shows exactly its deadline (`write time + timeout`, by
    `deadline_is_write_time_plus_timeout`); strictly before the deadline the response loop
    completes the request only with what the reader delivers, never with a timeout.
    (⇐) When the clock reaches the deadline and no complete matching frame or error has been
    delivered, the request completes with a timeout at that instant. -/
theorem timeout_iff {σ : Type} (F : Framing σ) :
    (∀ (c c' : Core), Reach c → TEff c c' → ∀ rid st time,
        LogEntry.done rid st .timeout time ∈ c'.log →
        LogEntry.done rid st .timeout time ∈ c.log
          ∨ ∃ m r tx dl, c.pos = .inflight m r tx dl ∧ r.rid = rid ∧ c.now = dl ∧ time = dl)
    ∧ (∀ (s s' : State σ) m q tx dl r, pollReader F s m = (r, s') → s.now < dl →
        (∀ t, tickInflight F s m q tx dl = some t →
          t = s' ∨ (∃ f, r = .frame f ∧ t = finish s' m q (respResult q.req f.pdu))
            ∨ ∃ res, r = .fail res ∧ res ≠ .timeout ∧ t = finish s' m q res))
    ∧ (∀ (s s' : State σ) m q tx dl, pollReader F s m = (.blocked, s') → dl ≤ s.now →
        tickInflight F s m q tx dl = some (finish s' m q .timeout)) := by
  refine ⟨fun c c' hr t rid st time h => error_meaning_timeout hr t rid st time h, ?_,
    fun s s' m q tx dl hr hnow => at_deadline_timeout F s s' m q tx dl hr hnow⟩
  intro s s' m q tx dl r hr hnow t ht
  obtain ⟨h1, h2, h3, h4⟩ := before_deadline F s s' m q tx dl r hr hnow
  cases r with
  | blocked => exact Or.inl (h4 rfl t ht)
  | frame f =>
    cases hm : txMatches f tx with
    | true => rw [h1 f rfl hm] at ht; cases ht; exact Or.inr (Or.inl ⟨f, rfl, rfl⟩)
    | false => rw [h3 f rfl hm] at ht; cases ht; exact Or.inl rfl
  | fail res =>
    rw [h2 res rfl] at ht; cases ht
    exact Or.inr (Or.inr ⟨res, rfl, (pollReader_fail F s m res (congrArg Prod.fst hr)).2.2, rfl⟩)

/-- A timeout below the limit leaves the session running on the same
    transport, with the read buffer, the parser state and the queue as they were: the next request
    is sent on the same connection. -/
theorem timeout_keeps_connection {σ : Type} (s : State σ) (m : Nat) (q : Req)
    (h : s.maxTo = 0 ∨ s.nto + 1 < s.maxTo) :
    (finish s m q .timeout).pos = .idle m
      ∧ (finish s m q .timeout).pst = s.pst ∧ (finish s m q .timeout).rb = s.rb
      ∧ (finish s m q .timeout).mocks = s.mocks ∧ (finish s m q .timeout).queue = s.queue := by
  obtain ⟨fin, nto, pos, -, -, hf⟩ := finish_frame s m q .timeout
  refine ⟨?_, by rw [hf], by rw [hf], by rw [hf], by rw [hf]⟩
  clear hf
  unfold finish
  rcases afterRequest_cases (complete s q .timeout) m .timeout
    with ⟨k, hk, -⟩ | ⟨-, h0, h1, -⟩ | ⟨-, n, he, -⟩
  · cases hk
  · simp only [complete, emit] at h0 h1
    omega
  · rw [he]

/-- the N-th consecutive timeout ends the session with `MaxTimeouts(N)` -/
theorem timeout_limit_ends_session {σ : Type} (s : State σ) (m : Nat) (q : Req)
    (h0 : s.maxTo ≠ 0) (h : s.maxTo ≤ s.nto + 1) :
    (finish s m q .timeout).pos = .noPhase
      ∧ (finish s m q .timeout).log
          = .fin (.maxTo s.maxTo) s.now :: .done q.rid q.style .timeout s.now :: s.log := by
  unfold finish
  rcases afterRequest_cases (complete s q .timeout) m .timeout
    with ⟨k, hk, -⟩ | ⟨-, -, -, he⟩ | ⟨-, n, -, -, hn⟩
  · cases hk
  · rw [he]
    exact ⟨rfl, rfl⟩
  · have hn' := hn rfl
    simp only [complete, emit] at hn'
    omega

/-- the machine's bookkeeping after a request is `afterCore` -/
theorem counter_is_afterCore {σ : Type} (s : State σ) (m : Nat) (res : Res) :
    core (afterRequest s m res) = afterCore (core s) m res :=
  core_afterRequest s m res

/-- a new session starts counting from zero -/
theorem counter_restarts_per_session {σ : Type} (F : Framing σ) (s t : State σ) (m : Nat)
    (ps : List Phase) (hp : s.phases = .session m :: ps) (h : startPhase F s = some t) :
    t.nto = 0 ∧ t.pos = .idle m := by
  unfold startPhase at h
  rw [hp] at h
  cases h
  exact ⟨rfl, rfl⟩

/-- Feed the outcomes `rs` of the consecutive requests of a session (outcomes
    that are not themselves session-ending I/O or framing errors) to the bookkeeping of
    `run_one_request`, starting at the beginning of the session, with limit `N ≥ 1`.  The session
    is over after these outcomes if and only if for some `j ≤ |rs|` the last `N` of the first `j`
    outcomes were all timeouts.  Applied to the prefixes of `rs`: the session ends exactly at the
    first point where the last `N` outcomes are timeouts — not earlier, not later, and any other
    outcome restarts the count. -/
theorem counter_exact (m N : Nat) (hN : 1 ≤ N) (c : Core) (hp : c.pos = .idle m)
    (hn : c.nto = 0) (hm : c.maxTo = N) (rs : List Res) (hrs : ∀ r ∈ rs, r.sessionEnd = none) :
    (feed m c rs).pos = .noPhase ↔ ∃ j, j ≤ rs.length ∧ N ≤ trailing (rs.take j) := by
  obtain ⟨h1, h2, _⟩ := feed_spec m N c hp (fun _ => hn) hm rs hrs
  constructor
  · intro hend
    apply Classical.byContradiction
    intro hno
    have := (h2 fun _ => hno).1
    rw [this] at hend
    cases hend
  · exact h1 hN

/-- while the limit has not been hit the counter equals the number of timeouts at the end of the
    outcome sequence -/
theorem counter_value (m N : Nat) (hN : 1 ≤ N) (c : Core) (hp : c.pos = .idle m)
    (hn : c.nto = 0) (hm : c.maxTo = N) (rs : List Res) (hrs : ∀ r ∈ rs, r.sessionEnd = none)
    (h : ¬ ∃ j, j ≤ rs.length ∧ N ≤ trailing (rs.take j)) :
    (feed m c rs).pos = .idle m ∧ (feed m c rs).nto = trailing rs :=
  let ⟨h1, h2⟩ := (feed_spec m N c hp (fun _ => hn) hm rs hrs).2.1 fun _ => h
  ⟨h1, h2 hN⟩

/-- `N = none`: without a limit timeouts never end the session -/
theorem counter_no_limit (m : Nat) (c : Core) (hp : c.pos = .idle m) (hm : c.maxTo = 0)
    (rs : List Res) (hrs : ∀ r ∈ rs, r.sessionEnd = none) : (feed m c rs).pos = .idle m :=
  ((feed_spec m 0 c hp (fun h => absurd h (by omega)) hm rs hrs).2.1
    fun h => absurd h (by omega)).1

namespace Example

def reply : List Nat := [0, 0, 0, 0, 0, 4, 1, 1, 1, 0x55]

/-- reply 1 ms before the deadline: success at 999 -/
example :
    doneIds (runState mbap s16
      [.newSession, .submit .R 0 (rc "a" .future 1000), .advance 999, .rx (.data reply)]).log
      = ["a"]
    ∧ (runState mbap s16
      [.newSession, .submit .R 0 (rc "a" .future 1000), .advance 999, .rx (.data reply)]).log.head?
      = some (.done "a" .future (.ok (.bits [(0, true), (1, false), (2, true), (3, false),
          (4, true), (5, false), (6, true), (7, false)])) 999) := by decide +kernel

/-- reply delivered at the deadline instant (in a later step): the timer has already won -/
example :
    (runState mbap s16
      [.newSession, .submit .R 0 (rc "a" .future 1000), .advance 1000, .rx (.data reply)]).log
      = [.done "a" .future .timeout 1000, .tx [0, 0, 0, 0, 0, 6, 1, 1, 0, 0, 0, 8]] := by decide +kernel

/-- a reply split over two deliveries with the clock moving in between, complete before the
    deadline -/
example :
    (runState mbap s16
      [.newSession, .submit .R 0 (rc "a" .future 10), .rx (.data [0, 0, 0, 0, 0, 4]),
       .advance 9, .rx (.data [1, 1, 1, 0x55])]).log.head?
      = some (.done "a" .future (.ok (.bits [(0, true), (1, false), (2, true), (3, false),
          (4, true), (5, false), (6, true), (7, false)])) 9) := by decide +kernel

/-- limit 2: timeout, exception (restarts the count), timeout, timeout ⇒ `maxto2` at the fourth
    outcome; a fifth request stays queued -/
example :
    (runState mbap (State.init mbap 16 2 ⟨0, 0, 0⟩ [])
      [.newSession, .submit .R 0 (rc "a" .future 10), .submit .R 0 (rc "b" .future 10),
       .submit .R 0 (rc "c" .future 10), .submit .R 0 (rc "d" .future 10),
       .submit .R 0 (rc "e" .future 10),
       .advance 10, .rx (.data [0, 1, 0, 0, 0, 3, 1, 0x81, 2]), .advance 20]).log.filter
        (fun e => !(match e with | .tx _ => true | _ => false))
      = [.fin (.maxTo 2) 30, .done "d" .future .timeout 30, .done "c" .future .timeout 20,
         .done "b" .future (.exc 2) 10, .done "a" .future .timeout 10] := by decide +kernel

/-- the abstract counter on a concrete outcome sequence -/
example :
    (feed 0 (Core.init 2 |> fun c => { c with pos := .idle 0 })
      [.timeout, .exc 2, .timeout, .timeout, .timeout]).pos = .noPhase
    ∧ (feed 0 (Core.init 2 |> fun c => { c with pos := .idle 0 })
      [.timeout, .exc 2, .timeout]).pos = .idle 0 := by decide +kernel

end Example

end Rodbus.Client
