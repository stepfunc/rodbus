import RodbusModel.Lemmas.ClientInv
import RodbusModel.Lemmas.ClientDecode
/-
  C20 (client side)  For identical inputs every decode level — including levels changed at run time
  through a client handle — yields identical bytes on the wire and identical request results.
  Changing the level never interrupts or reorders an outstanding transaction.

  Model: Model/Client.lean.  The state carries the level in the field `decode`; a script step
  `L<dXYZ>` (`Step.setDecode d`) sends `Command::Setting(DecodeLevel(d))` with `try_send` through
  handle 0, the task stores it when it takes the command from the queue.  Everything observable
  (frames written, completions, phase ends, refusals) is in the per-step log groups
  `(run F s steps).2`.

  `eraseDecode s` forgets the `decode` field and nothing else; `erase true s` also forgets the levels
  carried by set-decode commands that are still queued (`erase false = eraseDecode`).
-/
namespace Rodbus.Client

/-- the general form of `decode_noninterference_client`, from any two states that differ only in the
    `decode` field: every transition function of the model preserves "equal except for `decode`"
    (the `*_congr` statements of Lemmas/ClientDecode.lean) -/
theorem decode_noninterference_states {σ : Type} (F : Framing σ) (s t : State σ)
    (h : eraseDecode s = eraseDecode t) (steps : List Step) :
    (run F s steps).2 = (run F t steps).2
      ∧ eraseDecode (run F s steps).1 = eraseDecode (run F t steps).1 := by
  simpa only [erase_false] using
    run_congr (z := false) F s t steps steps (by simpa only [erase_false] using h) rfl

/-- Same framing, queue capacity, timeout limit, scheduler coins
    and script, two different initial decode levels: the log groups of every step are equal (same
    bytes on the wire, same request results at the same times, same phase ends), and the final
    states are equal except for the `decode` field. -/
theorem decode_noninterference_client {σ : Type} (F : Framing σ) (cap maxTo : Nat)
    (d₁ d₂ : Decode) (coins : List Bool) (steps : List Step) :
    (run F (State.init F cap maxTo d₁ coins) steps).2
        = (run F (State.init F cap maxTo d₂ coins) steps).2
      ∧ (run F (State.init F cap maxTo d₂ coins) steps).1
        = { (run F (State.init F cap maxTo d₁ coins) steps).1 with
            decode := (run F (State.init F cap maxTo d₂ coins) steps).1.decode } := by
  have h := decode_noninterference_states F (State.init F cap maxTo d₁ coins)
    (State.init F cap maxTo d₂ coins) rfl steps
  exact ⟨h.1, (eraseDecode_eq_iff _ _).mp h.2⟩

def SameUpToLevels (steps steps' : List Step) : Prop :=
  steps.map (eraseStep true) = steps'.map (eraseStep true)

/-- Replace the level carried by any of the `L` steps of a
    script (and the initial level) by other levels: every log group stays the same, and the final
    states agree in everything except the `decode` field and the levels carried by set-decode
    commands that are still waiting in the queue. -/
theorem level_change_content_irrelevant {σ : Type} (F : Framing σ) (cap maxTo : Nat)
    (d₁ d₂ : Decode) (coins : List Bool) (steps steps' : List Step)
    (h : SameUpToLevels steps steps') :
    (run F (State.init F cap maxTo d₁ coins) steps).2
        = (run F (State.init F cap maxTo d₂ coins) steps').2
      ∧ erase true (run F (State.init F cap maxTo d₁ coins) steps).1
        = erase true (run F (State.init F cap maxTo d₂ coins) steps').1 :=
  run_congr (z := true) F _ _ steps steps' rfl h

/-- what `erase true` keeps: every field except `decode`; the queue up to the levels carried -/
theorem erase_keeps {σ : Type} (s t : State σ) (h : erase true s = erase true t) :
    s.log = t.log ∧ s.pos = t.pos ∧ s.sent = t.sent ∧ s.dequeued = t.dequeued
      ∧ s.accepted = t.accepted ∧ s.tx = t.tx ∧ s.nto = t.nto ∧ s.now = t.now
      ∧ s.alive = t.alive ∧ s.enabled = t.enabled ∧ s.handles = t.handles ∧ s.phases = t.phases
      ∧ s.mocks = t.mocks ∧ s.pst = t.pst ∧ s.rb = t.rb ∧ s.coins = t.coins ∧ s.held = t.held
      ∧ s.waited = t.waited ∧ s.cap = t.cap ∧ s.maxTo = t.maxTo
      ∧ s.queue.map (eraseCmd true) = t.queue.map (eraseCmd true) := by
  cases s; cases t
  simp only [erase, State.mk.injEq] at h
  simp_all

/-- A set-decode command is an ordinary queued command:
    1. the step `L<d>` either appends the command to the queue (one slot) or, if the task is gone
       or the queue is full, logs `cmd.L.err`; it does nothing if handle 0 has been dropped
       (exactly the rule of `E`/`D`, which use the same `try_send`);
    2. while a request is in flight the queue is not touched, so the command is taken only after
       the outstanding transaction has completed, in queue order;
    3. taken inside a session or `fail_requests_for` while the channel is enabled, or inside
       `wait_for_enabled`, it only stores the level: nothing is logged, the phase goes on
       (like `enable` on an enabled channel);
    4. taken inside a session while the channel is disabled it ends the session with `disabled`,
       like any other setting that leaves the channel disabled (`run_cmd`). -/
theorem level_change_is_a_queued_command {σ : Type} (F : Framing σ) (s : State σ) (d : Decode) :
    (applyStep s (.setDecode d) =
        if handleAlive s 0 then
          (if !s.alive || decide (s.queue.length ≥ s.cap) then emit s (.cmdErr .L)
           else enqueue s (.setDecode d))
        else s)
      ∧ (applyStep s (.enable 0) =
        if handleAlive s 0 then
          (if !s.alive || decide (s.queue.length ≥ s.cap) then emit s (.cmdErr .E)
           else enqueue s .enable)
        else s)
      ∧ (∀ t m r tx dl, s.pos = .inflight m r tx dl → tick F s = some t → t.queue = s.queue)
      ∧ (∀ m, s.enabled = true →
          runCmd F s m (.setDecode d) = { s with decode := d }
            ∧ eraseDecode (runCmd F s m (.setDecode d)) = eraseDecode (runCmd F s m .enable))
      ∧ (s.enabled = true → failCmd s (.setDecode d) = { s with decode := d })
      ∧ waitCmd s (.setDecode d) = { s with decode := d }
      ∧ (∀ m, s.enabled = false →
          runCmd F s m (.setDecode d) = endPhase { s with decode := d } .disabled) := by
  refine ⟨rfl, rfl, fun t m r tx dl hp h => teff_inflight_queue (tick_eff F s t h) hp, fun m he => ?_,
    failCmd_setDecode_enabled s d, rfl, fun m => runCmd_setDecode_disabled F s m d⟩
  rw [runCmd_setDecode_enabled F s m d he]
  exact ⟨rfl, by simp [runCmd, applySetting, eraseDecode, he]⟩

/-- Insert a step `L<d>` into a script at a position
    where the task is quiescent (`Quiescent`: alive, blocked inside a session with the channel
    enabled and the reader blocked with nothing left to read, or inside `wait_for_enabled` while
    disabled, or inside `fail_requests_for` before its deadline with the channel enabled; nothing
    queued, no completed future still holding a handle clone, handle 0 alive, capacity ≥ 1).
    Then the log groups are those of the original script with one extra empty group at that
    position, and the final states are equal except for the `decode` field.

    Full statement, NOT proved: the same at ANY position, provided the queue never gets full.
    That statement is false for the model (and the code) without further side conditions:
    * the command occupies one queue slot until it is taken, so with a full queue a later
      `try_send` is refused (the `example` with capacity 1 below) — the stated condition;
    * taken while the channel is disabled inside a session or `fail_requests_for` it ends that
      phase with `disabled` (item 4 of `level_change_is_a_queued_command`);
    * waiting in the queue it makes `recv` ready, which changes how often `tokio::select!` has two
      ready branches and hence which scheduler coin decides later races.
    `Quiescent` excludes all three. -/
theorem level_change_transparent_client_partial {σ : Type} (F : Framing σ) (s0 : State σ)
    (pre post : List Step) (d : Decode) (hq : Quiescent F (run F s0 pre).1) :
    (run F s0 (pre ++ .setDecode d :: post)).2
        = (run F s0 pre).2 ++ [] :: (run F (run F s0 pre).1 post).2
      ∧ (run F s0 (pre ++ post)).2 = (run F s0 pre).2 ++ (run F (run F s0 pre).1 post).2
      ∧ eraseDecode (run F s0 (pre ++ .setDecode d :: post)).1
        = eraseDecode (run F s0 (pre ++ post)).1 := by
  obtain ⟨a1, a2⟩ := run_append F s0 pre (.setDecode d :: post)
  obtain ⟨b1, b2⟩ := run_append F s0 pre post
  have hstep := step_setDecode_quiescent F (run F s0 pre).1 hq d
  have hs : step F (run F s0 pre).1 (.setDecode d)
      = ({ (run F s0 pre).1 with decode := d }, []) := by
    unfold step
    rw [hstep]
    simp [newEntries]
  have hc := decode_noninterference_states F { (run F s0 pre).1 with decode := d }
    (run F s0 pre).1 rfl post
  refine ⟨?_, b1, ?_⟩
  · rw [a1]
    simp only [run, hs]
    rw [hc.1]
  · rw [a2, b2]
    simp only [run, hs]
    exact hc.2

/-- with a full queue the `L` step is refused and nothing else changes -/
theorem level_change_refused_when_full {σ : Type} (s : State σ) (d : Decode)
    (hh : handleAlive s 0 = true) (hfull : s.cap ≤ s.queue.length) :
    applyStep s (.setDecode d) = emit s (.cmdErr .L) := by
  simp [applyStep_setDecode, hh, hfull]

namespace Example

/-- a run with level changes at run time (one of them while the request is in flight): the log
    groups do not depend on the levels, the last level is the one stored -/
example :
    (run mbap (State.init mbap 16 0 ⟨0, 0, 0⟩ []) [.newSession, .enable 0, .setDecode ⟨3, 2, 2⟩,
      .submit .R 0 (rc "a" .future 10), .setDecode ⟨1, 0, 1⟩, .advance 10]).2
      = [[], [], [], [.tx [0, 0, 0, 0, 0, 6, 1, 1, 0, 0, 0, 8]], [], [.done "a" .future .timeout 10]] := by
  decide +kernel

example :
    (run mbap (State.init mbap 16 0 ⟨3, 2, 2⟩ []) [.newSession, .enable 0, .setDecode ⟨0, 0, 0⟩,
      .submit .R 0 (rc "a" .future 10), .setDecode ⟨2, 2, 0⟩, .advance 10]).2
      = [[], [], [], [.tx [0, 0, 0, 0, 0, 6, 1, 1, 0, 0, 0, 8]], [], [.done "a" .future .timeout 10]] := by
  decide +kernel

example :
    (runState mbap (State.init mbap 16 0 ⟨0, 0, 0⟩ []) [.newSession, .enable 0, .setDecode ⟨3, 2, 2⟩,
      .submit .R 0 (rc "a" .future 10), .setDecode ⟨1, 0, 1⟩, .advance 10]).decode = ⟨1, 0, 1⟩ := by
  decide +kernel

/-- `Quiescent` is satisfiable: an enabled session that has nothing to do -/
example : Quiescent mbap (runState mbap s16 [.newSession, .enable 0]) :=
  ⟨rfl, rfl, by decide, rfl, rfl, Or.inl ⟨0, rfl, rfl, rfl, rfl⟩⟩

/-- the command occupies a slot: with capacity 1 and no phase running the queued `L` command makes
    a later try-send submission fail with `full` (and its callback complete with `shutdown`);
    without the `L` step the request is queued -/
example :
    (run mbap s1 [.setDecode ⟨1, 1, 1⟩, .submit .T 0 (rc "a" .trySend 10)]).2
      = [[], [.done "a" .trySend .shutdown 0, .sub "a" .full]]
    ∧ (run mbap s1 [.submit .T 0 (rc "a" .trySend 10)]).2 = [[]] := by decide +kernel

/-- an `L` step while a request is in flight: the transaction completes as without it, the level is
    stored afterwards -/
example :
    let with_l := run mbap s16 [.newSession, .enable 0, .submit .R 0 (rc "a" .future 10),
      .setDecode ⟨3, 2, 2⟩, .rx (.data [0, 0, 0, 0, 0, 4, 1, 1, 1, 0x55])]
    let without := run mbap s16 [.newSession, .enable 0, .submit .R 0 (rc "a" .future 10),
      .rx (.data [0, 0, 0, 0, 0, 4, 1, 1, 1, 0x55])]
    with_l.2 = [[], [], [.tx [0, 0, 0, 0, 0, 6, 1, 1, 0, 0, 0, 8]], [],
        [.done "a" .future (.ok (.bits [(0, true), (1, false), (2, true), (3, false), (4, true),
          (5, false), (6, true), (7, false)])) 0]]
      ∧ without.2 = [[], [], [.tx [0, 0, 0, 0, 0, 6, 1, 1, 0, 0, 0, 8]],
        [.done "a" .future (.ok (.bits [(0, true), (1, false), (2, true), (3, false), (4, true),
          (5, false), (6, true), (7, false)])) 0]]
      ∧ with_l.1.decode = ⟨3, 2, 2⟩ ∧ with_l.1.queue = [] := by decide +kernel

end Example

end Rodbus.Client
