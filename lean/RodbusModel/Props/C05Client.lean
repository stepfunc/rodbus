import RodbusModel.Lemmas.ClientDrain
import RodbusModel.Lemmas.ClientChunk
/-
  C05 / C06 in the CLIENT role, at the level of a run of the client task: how the transport cuts a
  reply into reads does not matter.  `rx_chunking_mbap` / `rx_chunking_rtu`: the script step
  `.rx (.data (a ++ b))` leads to the SAME STATE (all fields) as the two steps `.rx (.data a)`,
  `.rx (.data b)`, the tasks running until they block after each step, when

  (H1) the task is quiet (`QuietRx u m`, Lemmas/ClientChunk) and no completed future holds a clone
       (`u.held = 0`).  Every blocked state in a session on the newest transport is quiet
       (`quiet_of_blocked`), and every state reached by a script whose last step is not a clock
       movement is blocked (`runState_blocked_mbap` / `_rtu`);
  (H2) `a` and `b` are not empty (an empty read is the end of file);
  (H3) the split is INSIDE a reply: the delivery `a` alone leaves the reader blocked (`hmid`);
  (H4) `a ++ b` fits behind the buffered bytes (`hfit`): the reader takes each delivery with one
       `read_some`;
  (H5, MBAP only) `a` does not end exactly at the end of the 7-byte header (`hne`: bytes remain
       buffered after `a`; for RTU this always holds, `rtu_mid_nonempty`).

  What fails without them (witnesses below, found by evaluation):
  * (H3): a reply that is complete in `a` is handled when `a` arrives; the task then goes on
    (completes the request, transmits the next one) BEFORE `b` is there, whereas with the joint
    delivery `b` is already buffered and `discard_buffered_frames` drops it as stale
    (`split_after_reply_differs`: different logs; inherent in the protocol, not a defect);
  * (H5): logs, positions and results agree but `rb.begin`, the read index of `ReadBuffer`,
    differs, because `read_some` resets the indices of an EMPTY buffer
    (`split_at_header_end_differs`);
  * (H1): bytes delivered while no session reads the newest transport stay in the transport's
    queue, as two chunks resp. one (`unread_chunks_differ`).
  For (H4) no witness was found; it is a limitation of the proof: beyond it the amounts taken by
  the individual `read_some` calls differ and equality would have to be shown up to the position of
  the bytes (buffer vs. unread rest).
-/
namespace Rodbus.Client

/-- TCP / TLS; the hypotheses are those of the header -/
theorem rx_chunking_mbap (u : State Mbap.PState) (m : Nat) (hq : QuietRx u m) (hu : u.held = 0)
    (a b : Bytes) (ha : a ≠ []) (hb : b ≠ [])
    (hfit : u.rb.begin + u.rb.data.length + a.length + b.length ≤ CAP)
    (st1 : Mbap.PState) (rb1 : RB)
    (hmid : readerPoll mbap (readerFuel [.data a]) u.pst u.rb [.data a] = (.blocked, st1, rb1, []))
    (hne : rb1.data ≠ []) :
    stepState mbap (stepState mbap u (.rx (.data a))) (.rx (.data b))
      = stepState mbap u (.rx (.data (a ++ b))) :=
  rx_split mbap mbapW mbap_measure mbapW_le_eleven mbap_hopInv u m hq hu a b ha hb hfit st1 rb1 hmid
    hne

/-- serial (response parser); no hypothesis (H5).  `hst` is not used: the RTU parser continues
    where it stopped from every state (`rtu_hopInv`). -/
theorem rx_chunking_rtu (u : State Rtu.PState) (m : Nat) (hq : QuietRx u m) (hu : u.held = 0)
    (hst : Rtu.StOk u.pst) (a b : Bytes) (ha : a ≠ []) (hb : b ≠ [])
    (hfit : u.rb.begin + u.rb.data.length + a.length + b.length ≤ CAP)
    (st1 : Rtu.PState) (rb1 : RB)
    (hmid : readerPoll rtu (readerFuel [.data a]) u.pst u.rb [.data a] = (.blocked, st1, rb1, [])) :
    stepState rtu (stepState rtu u (.rx (.data a))) (.rx (.data b))
      = stepState rtu u (.rx (.data (a ++ b))) :=
  rx_split rtu (fun _ => 0) rtu_measure (fun _ => Nat.zero_le _) rtu_hopInv u m hq hu
    a b ha hb hfit st1 rb1 hmid (rtu_mid_nonempty u.pst u.rb a ha (by omega) st1 rb1 hmid)

/-- every state reached by a script whose last step is not a clock movement is blocked -/
theorem runState_blocked_mbap (cap maxTo : Nat) (d : Decode) (coins : List Bool)
    (steps : List Step) (st : Step) (hst : ∀ ms, st ≠ .advance ms) :
    Blocked mbap (runState mbap (State.init mbap cap maxTo d coins) (steps ++ [st])) := by
  rw [runState_append]
  exact stepState_blocked mbap mbap_settled_blocked _ st hst

theorem runState_blocked_rtu (cap maxTo : Nat) (d : Decode) (coins : List Bool)
    (steps : List Step) (st : Step) (hst : ∀ ms, st ≠ .advance ms) :
    Blocked rtu (runState rtu (State.init rtu cap maxTo d coins) (steps ++ [st])) := by
  rw [runState_append]
  exact stepState_blocked rtu rtu_settled_blocked _ st hst

/-- for the reachable states: a script, then the two deliveries resp. the joint one -/
theorem rx_chunking_mbap_reachable (cap maxTo : Nat) (d : Decode) (coins : List Bool)
    (steps : List Step) (u : State Mbap.PState)
    (hu : u = runState mbap (State.init mbap cap maxTo d coins) steps) (hblocked : Blocked mbap u)
    (halive : u.alive = true) (m : Nat) (hm : m + 1 = u.mocks.length)
    (hpos : u.pos = .idle m ∨ ∃ q tx dl, u.pos = .inflight m q tx dl)
    (a b : Bytes) (ha : a ≠ []) (hb : b ≠ [])
    (hfit : u.rb.begin + u.rb.data.length + a.length + b.length ≤ CAP)
    (st1 : Mbap.PState) (rb1 : RB)
    (hmid : readerPoll mbap (readerFuel [.data a]) u.pst u.rb [.data a] = (.blocked, st1, rb1, []))
    (hne : rb1.data ≠ []) :
    runState mbap (State.init mbap cap maxTo d coins) (steps ++ [.rx (.data a), .rx (.data b)])
      = runState mbap (State.init mbap cap maxTo d coins) (steps ++ [.rx (.data (a ++ b))]) := by
  rw [runState_append, runState_append, ← hu]
  exact rx_chunking_mbap u m (quiet_of_blocked mbap u m halive hm hblocked.1 hpos) hblocked.2
    a b ha hb hfit st1 rb1 hmid hne

/-- the same for RTU (`rtu_stok_reachable` discharges the hypothesis `hst` of `rx_chunking_rtu`) -/
theorem rx_chunking_rtu_reachable (cap maxTo : Nat) (d : Decode) (coins : List Bool)
    (steps : List Step) (u : State Rtu.PState)
    (hu : u = runState rtu (State.init rtu cap maxTo d coins) steps) (hblocked : Blocked rtu u)
    (halive : u.alive = true) (m : Nat) (hm : m + 1 = u.mocks.length)
    (hpos : u.pos = .idle m ∨ ∃ q tx dl, u.pos = .inflight m q tx dl)
    (a b : Bytes) (ha : a ≠ []) (hb : b ≠ [])
    (hfit : u.rb.begin + u.rb.data.length + a.length + b.length ≤ CAP)
    (st1 : Rtu.PState) (rb1 : RB)
    (hmid : readerPoll rtu (readerFuel [.data a]) u.pst u.rb [.data a] = (.blocked, st1, rb1, [])) :
    runState rtu (State.init rtu cap maxTo d coins) (steps ++ [.rx (.data a), .rx (.data b)])
      = runState rtu (State.init rtu cap maxTo d coins) (steps ++ [.rx (.data (a ++ b))]) := by
  have hst : Rtu.StOk u.pst := by rw [hu]; exact rtu_stok_reachable cap maxTo d coins steps
  rw [runState_append, runState_append, ← hu]
  exact rx_chunking_rtu u m (quiet_of_blocked rtu u m halive hm hblocked.1 hpos) hblocked.2 hst
    a b ha hb hfit st1 rb1 hmid

/-- the reader alone (no hypothesis on the task): polling it on the joint delivery gives what
    polling it on `b` gives after `a` left it blocked; for RTU `hst` is not used -/
theorem reader_chunking_mbap (st : Mbap.PState) (rb : RB) (a b : Bytes) (ha : a ≠ []) (hb : b ≠ [])
    (hfit : rb.begin + rb.data.length + a.length + b.length ≤ CAP) (st1 : Mbap.PState) (rb1 : RB)
    (hmid : readerPoll mbap (readerFuel [.data a]) st rb [.data a] = (.blocked, st1, rb1, []))
    (hne : rb1.data ≠ []) :
    readerPoll mbap (readerFuel [.data (a ++ b)]) st rb [.data (a ++ b)]
      = readerPoll mbap (readerFuel [.data b]) st1 rb1 [.data b] :=
  readerPoll_split mbap mbap_hopInv st rb a b ha hb hfit st1 rb1 hmid hne

theorem reader_chunking_rtu (st : Rtu.PState) (rb : RB) (hst : Rtu.StOk st) (a b : Bytes)
    (ha : a ≠ []) (hb : b ≠ [])
    (hfit : rb.begin + rb.data.length + a.length + b.length ≤ CAP) (st1 : Rtu.PState) (rb1 : RB)
    (hmid : readerPoll rtu (readerFuel [.data a]) st rb [.data a] = (.blocked, st1, rb1, [])) :
    readerPoll rtu (readerFuel [.data (a ++ b)]) st rb [.data (a ++ b)]
      = readerPoll rtu (readerFuel [.data b]) st1 rb1 [.data b] :=
  readerPoll_split rtu rtu_hopInv st rb a b ha hb hfit st1 rb1 hmid
    (rtu_mid_nonempty st rb a ha (by omega) st1 rb1 hmid)

-- for the `decide` of the equalities and inequalities of states below
deriving instance DecidableEq for State

namespace Example.Chunk

/-- the reply `00 00 00 00 00 04 01 01 01 55` to the request `a` (tx id 0, 8 coils) -/
def reply : Bytes := [0, 0, 0, 0, 0, 4, 1, 1, 1, 0x55]

/-- a session on the newest transport with request `a` in flight -/
def waiting : State Mbap.PState :=
  runState mbap s16 [.newSession, .submit .R 0 (rc "a" .future 1000)]

theorem waiting_quiet : QuietRx waiting 0 := by
  have h : waiting.alive = true ∧ 0 + 1 = waiting.mocks.length ∧ (getMock waiting 0).rx = []
      ∧ waiting.pos = .inflight 0 (rc "a" .future 1000) 0 1000 ∧ waiting.now < 1000 := by
    decide +kernel
  exact ⟨h.1, h.2.1, h.2.2.1, .inr ⟨_, _, _, h.2.2.2⟩⟩

/-- split INSIDE THE HEADER (after 4 of its 7 bytes): the hypotheses of `rx_chunking_mbap` hold -/
example :
    stepState mbap (stepState mbap waiting (.rx (.data (reply.take 4)))) (.rx (.data (reply.drop 4)))
      = stepState mbap waiting (.rx (.data (reply.take 4 ++ reply.drop 4))) :=
  rx_chunking_mbap waiting 0 waiting_quiet (by decide +kernel) _ _ (by decide +kernel)
    (by decide +kernel) (by decide +kernel) .begin ⟨0, [0, 0, 0, 0]⟩ (by decide +kernel)
    (by decide +kernel)

/-- split INSIDE THE BODY (after the header and one byte of the PDU) -/
example :
    stepState mbap (stepState mbap waiting (.rx (.data (reply.take 8)))) (.rx (.data (reply.drop 8)))
      = stepState mbap waiting (.rx (.data (reply.take 8 ++ reply.drop 8))) :=
  rx_chunking_mbap waiting 0 waiting_quiet (by decide +kernel) _ _ (by decide +kernel)
    (by decide +kernel) (by decide +kernel) (.header ⟨0, 4, 1⟩ 3) ⟨7, [1]⟩ (by decide +kernel)
    (by decide +kernel)

/-- … and the request is completed with the reply in both (evaluation of the model) -/
example :
    (runState mbap s16 [.newSession, .submit .R 0 (rc "a" .future 1000),
        .rx (.data (reply.take 4)), .rx (.data (reply.drop 4))])
      = (runState mbap s16 [.newSession, .submit .R 0 (rc "a" .future 1000), .rx (.data reply)])
    ∧ doneIds (runState mbap s16 [.newSession, .submit .R 0 (rc "a" .future 1000),
        .rx (.data (reply.take 8)), .rx (.data (reply.drop 8))]).log = ["a"] := by decide +kernel

/-- RTU: the reply `01 01 01 55 91 B7`, split inside the two header bytes … -/
def rtuWaiting : State Rtu.PState :=
  runState rtu (State.init rtu 16 0 ⟨0, 0, 0⟩ []) [.newSession, .submit .R 0 (rc "a" .future 1000)]

theorem rtuWaiting_quiet : QuietRx rtuWaiting 0 := by
  have h : rtuWaiting.alive = true ∧ 0 + 1 = rtuWaiting.mocks.length
      ∧ (getMock rtuWaiting 0).rx = []
      ∧ rtuWaiting.pos = .inflight 0 (rc "a" .future 1000) 0 1000 ∧ rtuWaiting.now < 1000 := by
    decide +kernel
  exact ⟨h.1, h.2.1, h.2.2.1, .inr ⟨_, _, _, h.2.2.2⟩⟩

example :
    stepState rtu (stepState rtu rtuWaiting (.rx (.data [1]))) (.rx (.data [1, 1, 0x55, 0x91, 0xB7]))
      = stepState rtu rtuWaiting (.rx (.data ([1] ++ [1, 1, 0x55, 0x91, 0xB7]))) :=
  rx_chunking_rtu rtuWaiting 0 rtuWaiting_quiet (by decide +kernel)
    (rtu_stok_reachable 16 0 ⟨0, 0, 0⟩ [] _) _ _
    (by decide +kernel) (by decide +kernel) (by decide +kernel) .start ⟨0, [1]⟩ (by decide +kernel)

/-- … and inside the body (after the byte count) -/
example :
    stepState rtu (stepState rtu rtuWaiting (.rx (.data [1, 1, 1]))) (.rx (.data [0x55, 0x91, 0xB7]))
      = stepState rtu rtuWaiting (.rx (.data ([1, 1, 1] ++ [0x55, 0x91, 0xB7]))) :=
  rx_chunking_rtu rtuWaiting 0 rtuWaiting_quiet (by decide +kernel)
    (rtu_stok_reachable 16 0 ⟨0, 0, 0⟩ [] _) _ _
    (by decide +kernel) (by decide +kernel) (by decide +kernel) (.fullBody 1 2) ⟨1, [1, 1]⟩
    (by decide +kernel)

example :
    doneIds (stepState rtu (stepState rtu rtuWaiting (.rx (.data [1, 1, 1])))
      (.rx (.data [0x55, 0x91, 0xB7]))).log = ["a"] := by decide +kernel

/-- Witness for (H3).  Request `a` in flight, `b` queued; the transport
    delivers the reply to `a` and a frame with the tx id `b` will get.  Delivered together, the
    second frame is buffered before `b` is transmitted and is dropped as stale: only `a` completes.
    Delivered as two reads, `b` has been transmitted when the second frame arrives, and it becomes
    the reply to `b`. -/
theorem split_after_reply_differs :
    let script := [Step.newSession, .submit .R 0 (rc "a" .future 1000),
      .submit .R 0 (rc "b" .future 1000)]
    let second : Bytes := [0, 1, 0, 0, 0, 4, 1, 1, 1, 0xFF]
    doneIds (runState mbap s16 (script ++ [.rx (.data (reply ++ second))])).log = ["a"]
      ∧ doneIds (runState mbap s16 (script ++ [.rx (.data reply), .rx (.data second)])).log
          = ["b", "a"] := by decide +kernel

/-- the two runs of `split_at_header_end_differs` -/
def headerTwo : State Mbap.PState :=
  runState mbap s16 [.newSession, .submit .R 0 (rc "a" .future 1000),
    .rx (.data (reply.take 7)), .rx (.data (reply.drop 7))]

def headerOne : State Mbap.PState :=
  runState mbap s16 [.newSession, .submit .R 0 (rc "a" .future 1000),
    .rx (.data (reply.take 7 ++ reply.drop 7))]

/-- Witness for (H5).  Split exactly after the 7-byte header: same
    log, same position, but the read index of the buffer differs (the empty buffer was reset before
    the second read), so the states are not equal. -/
theorem split_at_header_end_differs :
    headerOne.log = headerTwo.log ∧ headerOne.pos = headerTwo.pos ∧ headerOne.pst = headerTwo.pst
      ∧ headerOne.rb.data = headerTwo.rb.data ∧ headerOne.mocks = headerTwo.mocks
      ∧ headerOne.coins = headerTwo.coins
      ∧ headerOne.rb.begin = 10 ∧ headerTwo.rb.begin = 3 ∧ headerOne ≠ headerTwo := by
  decide +kernel

/-- Witness for (H1).  While the running session is on an older transport
    the bytes stay in the queue of the newest one, as they were delivered. -/
theorem unread_chunks_differ :
    (runState mbap s16 [.newSession, .newSession, .rx (.data [1]), .rx (.data [2])]).mocks
        = [{}, { rx := [.data [1], .data [2]] }]
      ∧ (runState mbap s16 [.newSession, .newSession, .rx (.data ([1] ++ [2]))]).mocks
        = [{}, { rx := [.data [1, 2]] }] := by decide +kernel

end Example.Chunk

end Rodbus.Client
