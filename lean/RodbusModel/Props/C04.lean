import RodbusModel.Lemmas.ClientPdu
import RodbusModel.Gen.Tables
/-
  C04  The client accepts only the genuine matching reply and returns exactly its data: a
       well-formed exception reply yields exactly that exception code, every other reply fails
       with an error that is not an exception — never data and never a panic.

  `handleResponse` is a total function into `Except RespErr RespVal`: "never a panic" is its
  totality together with `returned_indices` (the index arithmetic `start + pos` of the returned
  items stays within u16).
-/
namespace Rodbus.C04
open Rodbus.Spec.Client
open Rodbus.ClientPdu (instDecidableEqExcept)

/-- `Ok(v)` iff the PDU is the well-formed reply to this very request carrying `v`:
    reads — function code, one byte-count byte, exactly `⌈n/8⌉` / `2n` payload bytes, `v` the
    `n` decoded items; writes — the exact echo of the request. -/
theorem success_iff {req : ClientReq} {pdu : Bytes} {v : RespVal} (hv : ClientValid req)
    (hw : Bytes.WF pdu) : handleResponse req pdu = .ok v ↔ WellFormedReply req pdu v :=
  ClientPdu.success_iff req pdu v hv hw

theorem reply_data_unique {req : ClientReq} {pdu : Bytes} {v v' : RespVal} (hv : ClientValid req)
    (hw : Bytes.WF pdu) (h : WellFormedReply req pdu v) (h' : WellFormedReply req pdu v') :
    v = v' := by
  have a := (success_iff hv hw).2 h
  have b := (success_iff hv hw).2 h'
  rw [a] at b; cases b; rfl

/-- data is only ever returned for a reply that starts with the request's function code -/
theorem success_function_code {req : ClientReq} {pdu : Bytes} {v : RespVal}
    (h : handleResponse req pdu = .ok v) : ∃ body, pdu = req.fc.toByte :: body :=
  ClientPdu.ok_head h

/-- `Err(Exception(c))` iff the PDU is `[fc | 0x80, c]` (any request, any byte string) -/
theorem exception_iff (req : ClientReq) (pdu : Bytes) (c : Nat) :
    handleResponse req pdu = .error (.exception c) ↔ pdu = [orErr req.fc.toByte, c] :=
  ClientPdu.exception_iff req pdu c

/-- neither the genuine reply nor the exception reply ⇒ `BadResponse` or `BadRequest` -/
theorem otherwise_error {req : ClientReq} {pdu : Bytes} (hv : ClientValid req) (hw : Bytes.WF pdu)
    (h1 : ¬ ∃ v, WellFormedReply req pdu v) (h2 : ¬ ∃ c, ExceptionReply req pdu c) :
    handleResponse req pdu = .error .badResponse ∨ handleResponse req pdu = .error .badRequest :=
  ClientPdu.otherwise_error req pdu hv hw h1 h2

/-- Trichotomy: a reply PDU is the genuine reply, or the exception reply, or neither — exactly one
    of the three — and the outcome is, respectively, its data, its code, or a non-exception
    error. -/
theorem trichotomy {req : ClientReq} {pdu : Bytes} (hv : ClientValid req) (hw : Bytes.WF pdu) :
    ((∃ v, WellFormedReply req pdu v ∧ handleResponse req pdu = .ok v) ∧
        ¬ ∃ c, ExceptionReply req pdu c) ∨
    ((∃ c, ExceptionReply req pdu c ∧ handleResponse req pdu = .error (.exception c)) ∧
        ¬ ∃ v, WellFormedReply req pdu v) ∨
    ((¬ ∃ v, WellFormedReply req pdu v) ∧ (¬ ∃ c, ExceptionReply req pdu c) ∧
        (handleResponse req pdu = .error .badResponse ∨
         handleResponse req pdu = .error .badRequest)) := by
  by_cases h1 : ∃ v, WellFormedReply req pdu v
  · left
    obtain ⟨v, hwf⟩ := h1
    have hok := (success_iff hv hw).2 hwf
    refine ⟨⟨v, hwf, hok⟩, ?_⟩
    rintro ⟨c, hc⟩
    rw [(ClientPdu.exception_iff_spec req pdu c).2 hc] at hok; cases hok
  · right
    by_cases h2 : ∃ c, ExceptionReply req pdu c
    · left
      obtain ⟨c, hc⟩ := h2
      exact ⟨⟨c, hc, (ClientPdu.exception_iff_spec req pdu c).2 hc⟩, h1⟩
    · right
      exact ⟨h1, h2, otherwise_error hv hw h1 h2⟩

/-- the error is `BadRequest` exactly for a write-multiple echo whose range is itself invalid
    (quantity 0 or address overflow), `BadResponse` in all other failing cases -/
theorem badRequest_iff (req : ClientReq) (pdu : Bytes) (hw : Bytes.WF pdu) :
    handleResponse req pdu = .error .badRequest ↔
      (req.fc = .writeMultipleCoils ∨ req.fc = .writeMultipleRegisters) ∧
      ∃ a b c d rest, pdu = req.fc.toByte :: a :: b :: c :: d :: rest ∧
        (be16 c d = 0 ∨ be16 a b + be16 c d > 65536) :=
  ClientPdu.badRequest_iff req pdu hw

/-- the empty PDU and a PDU with a foreign function code are errors, not data -/
theorem empty_reply (req : ClientReq) : handleResponse req [] = .error .badResponse := rfl

theorem foreign_function_code (req : ClientReq) (f : Nat) (body : Bytes)
    (h1 : f ≠ req.fc.toByte) (h2 : f ≠ req.fc.toByte + 128) :
    handleResponse req (f :: body) = .error .badResponse := by
  rw [ClientPdu.handle_ne req f body h1, orErr_toByte, if_neg h2]

/-- `u8::from(ExceptionCode::from(b)) = b` for every byte: the code reported to the caller
    determines the byte on the wire and vice versa -/
theorem exception_code_roundtrip : ∀ b, (ExCode.ofByte b).toByte = b := ExCode.toByte_ofByte

theorem exception_code_injective {a b : Nat} (h : ExCode.ofByte a = ExCode.ofByte b) : a = b := by
  rw [← exception_code_roundtrip a, ← exception_code_roundtrip b, h]

/-- agreement with the tables generated from exception.rs: listed bytes … -/
theorem exOfByte_table : ∀ p ∈ Gen.exOfByte, ExCode.ofByte p.1 = p.2 := by decide

/-- … and every unlisted byte `b` maps to `Unknown(b)` -/
theorem exOfByte_unlisted (b : Nat) (h : ∀ p ∈ Gen.exOfByte, p.1 ≠ b) :
    ExCode.ofByte b = .unknown b :=
  -- the generated table is the lookup table of `ExCode.ofByte_lookup`; an unlisted byte finds
  -- nothing in it
  have hl : Gen.exOfByte.lookup b = none :=
    List.lookup_eq_none_iff.2 fun p hp => bne_iff_ne.2 (Ne.symm (h p hp))
  (ExCode.ofByte_lookup id b).trans (congrArg (·.getD (.unknown b)) hl)

theorem exToByte_table : ∀ p ∈ Gen.exToByte, p.1.toByte = p.2 := by decide

/-- every variant not listed in the table is `Unknown(b)` and maps to `b` -/
theorem exToByte_unlisted (c : ExCode) (h : ∀ p ∈ Gen.exToByte, p.1 ≠ c) :
    ∃ b, c = .unknown b ∧ c.toByte = b := by
  by_cases hm : (c, c.toByte) ∈ Gen.exToByte
  · exact absurd rfl (h _ hm)
  · cases c <;> first | exact ⟨_, rfl, rfl⟩ | exact absurd (by decide) hm

theorem range_indices {α : Type} (s c : Nat) (f : Nat → α) (h : s + c ≤ 65536)
    {items : List (Nat × α)} (hi : items = (List.range c).map fun i => (s + i, f i)) :
    items.map Prod.fst = (List.range c).map (s + ·) ∧ ∀ a ∈ items.map Prod.fst, a < 65536 := by
  subst hi
  refine ⟨by simp [Function.comp_def], fun a ha => ?_⟩
  simp at ha
  obtain ⟨i, hi, rfl⟩ := ha
  omega

/-- On success a read returns exactly `count` items, item `i` has index `start + i` (ascending,
    no gaps) and `start + i ≤ 65535`: the u16 addition `range.start + pos` of the iterators
    cannot overflow. -/
theorem returned_indices {req : ClientReq} {pdu : Bytes} {v : RespVal} (hv : ClientValid req)
    (hw : Bytes.WF pdu) (h : handleResponse req pdu = .ok v) :
    (∀ s c, (req = .readCoils s c ∨ req = .readDiscreteInputs s c) →
      ∃ items, v = .bits items ∧ items.map Prod.fst = (List.range c).map (s + ·) ∧
        ∀ a ∈ items.map Prod.fst, a < 65536) ∧
    (∀ s c, (req = .readHoldingRegisters s c ∨ req = .readInputRegisters s c) →
      ∃ items, v = .regs items ∧ items.map Prod.fst = (List.range c).map (s + ·) ∧
        ∀ a ∈ items.map Prod.fst, a < 65536) := by
  have hwf := (success_iff hv hw).1 h
  constructor
  all_goals
    intro s c hreq
    rcases hreq with rfl | rfl
    all_goals
      obtain ⟨bc, payload, _, _, rfl⟩ := hwf
      exact ⟨_, rfl, range_indices s c _ hv.2.2.2.1 rfl⟩

/-- the register values returned for a read of holding registers are u16 values -/
theorem returned_values {s c : Nat} {pdu : Bytes} {items : List (Nat × Nat)}
    (hv : ClientValid (.readHoldingRegisters s c)) (hw : Bytes.WF pdu)
    (h : handleResponse (.readHoldingRegisters s c) pdu = .ok (.regs items)) :
    ∀ p ∈ items, p.2 < 65536 := by
  obtain ⟨bc, payload, rfl, hl, hitems⟩ := (success_iff hv hw).1 h
  cases hitems
  have hwp : Bytes.WF payload := (Bytes.WF_cons.1 (Bytes.WF_cons.1 hw).2).2
  intro p hp
  simp at hp
  obtain ⟨i, hi, rfl⟩ := hp
  exact ClientPdu.regOf_lt hwp i

/-- `readAll` (Spec/Client.lean) in words: all values, in ascending address order … -/
theorem readAll_ok_iff {α : Type} (get : Nat → Except Nat α) (s n : Nat) (vs : List α) :
    readAll get s n = .ok vs ↔
      vs.length = n ∧ ∀ i (h : i < vs.length), get (s + i) = .ok vs[i] :=
  ClientPdu.readAll_ok_iff get s n vs

/-- … or the exception raised at the lowest failing address -/
theorem readAll_error_iff {α : Type} (get : Nat → Except Nat α) (s n e : Nat) :
    readAll get s n = .error e ↔
      ∃ k, k < n ∧ get (s + k) = .error e ∧ ∀ i, i < k → ∃ v, get (s + i) = .ok v := by
  rw [← ClientPdu.readSeq_range get ⟨s, n⟩]
  constructor
  · intro h
    have hs := firstErr_spec (fun i => errOf (get (s + i))) n
    generalize firstErr _ n = ff at hs
    cases ff with
    | none =>
      -- nothing fails, so values are returned; the first of them serves as the default in which
      -- `readSeq_of_ok` writes them down
      cases n with
      | zero => cases h
      | succ n =>
        obtain ⟨d, -⟩ := (errOf_eq_none _).1 (hs 0 (Nat.zero_lt_succ n))
        rw [readSeq_of_ok (val := fun a => (get a).toOption.getD d) fun a ha => ?_] at h
        · cases h
        · obtain ⟨i, hi, rfl⟩ := List.mem_map.1 ha
          obtain ⟨v, hv⟩ := (errOf_eq_none _).1 (hs i (List.mem_range.1 hi))
          rw [hv]; rfl
    | some p =>
      rw [Range.addresses, readSeq_range_of_error hs.1 hs.2.1 hs.2.2] at h
      cases h
      exact ⟨p.1, hs.1, (errOf_eq_some _ _).1 hs.2.1, fun i hi => (errOf_eq_none _).1 (hs.2.2 i hi)⟩
  · rintro ⟨k, hk, he, hb⟩
    rw [Range.addresses, readSeq_range_of_error hk ((errOf_eq_some _ _).2 he)
      fun i hi => (errOf_eq_none _).2 (hb i hi)]

/-- The client, given the reply the server computes for the request the client's bytes denote,
    returns exactly the application's answer (`served`): the values read in ascending address
    order paired with their addresses / the echoed write, or the exception the application
    raised first.  Hypothesis: the application's register values are u16 values.
    (No hypothesis on the exception byte is needed.) -/
theorem end_to_end {σ : Type} (H : Handler σ) (u : Nat) (s : σ) (req : ClientReq)
    (hv : ClientValid req) (hu : HandlerU16 H s) :
    handleResponse req (getReply H u s (toServer req)).1 = served H s req :=
  ClientPdu.end_to_end H u s req hv hu

/-- the same over the wire: bytes produced by the client, parsed by the server
    (`encodeRequest`, `parseRequest`), served, reply handled by the client -/
theorem end_to_end_wire {σ : Type} (H : Handler σ) (u : Nat) (s : σ) (req : ClientReq)
    (fcb : Nat) (body : Bytes) (r : Request) (hf : req.FieldsU16) (hvals : req.ValuesU16)
    (hu : HandlerU16 H s) (henc : encodeRequest req = .ok (fcb :: body))
    (hparse : parseRequest req.fc body = some r) :
    handleResponse req (getReply H u s r).1 = served H s req := by
  obtain ⟨hr, e⟩ := ClientPdu.encode_ok_spec henc
  have hv : ClientValid req := (ClientPdu.rejection_none_iff req hf).1 hr
  rw [ClientPdu.pdu_head req] at e
  injection e with _ e
  rw [e, ClientPdu.parse_pdu req hv hvals] at hparse
  cases hparse
  exact end_to_end H u s req hv hu

/-- 10 coils, two payload bytes (the example of the Modbus specification, shortened) -/
example : handleResponse (.readCoils 0x13 10) [1, 2, 0xCD, 0x01] =
    .ok (.bits [(0x13, true), (0x14, false), (0x15, true), (0x16, true), (0x17, false),
      (0x18, false), (0x19, true), (0x1A, true), (0x1B, true), (0x1C, false)]) := by decide +kernel
example : WellFormedReply (.readCoils 0x13 10) [1, 2, 0xCD, 0x01]
    (.bits [(0x13, true), (0x14, false), (0x15, true), (0x16, true), (0x17, false),
      (0x18, false), (0x19, true), (0x1A, true), (0x1B, true), (0x1C, false)]) :=
  ⟨2, [0xCD, 0x01], by decide +kernel⟩
/-- the byte-count byte is not checked -/
example : handleResponse (.readHoldingRegisters 7 2) [3, 99, 0xCA, 0xFE, 0, 1] =
    .ok (.regs [(7, 0xCAFE), (8, 1)]) := by decide +kernel
/-- wrong payload length, trailing byte, wrong function code, truncated exception -/
example : handleResponse (.readHoldingRegisters 7 2) [3, 4, 0xCA, 0xFE, 0] =
    .error .badResponse := by decide +kernel
example : handleResponse (.readHoldingRegisters 7 2) [3, 4, 0xCA, 0xFE, 0, 1, 0] =
    .error .badResponse := by decide +kernel
example : handleResponse (.readHoldingRegisters 7 2) [4, 4, 0xCA, 0xFE, 0, 1] =
    .error .badResponse := by decide +kernel
example : handleResponse (.readHoldingRegisters 7 2) [0x83] = .error .badResponse := by decide +kernel
example : handleResponse (.readHoldingRegisters 7 2) [0x83, 2, 0] = .error .badResponse := by
  decide +kernel
/-- exception replies, known and unknown code -/
example : handleResponse (.readHoldingRegisters 7 2) [0x83, 2] = .error (.exception 2) := by decide +kernel
example : handleResponse (.writeMultipleCoils 7 [true]) [0x8F, 0x77] = .error (.exception 0x77) := by
  decide +kernel
example : ExCode.ofByte 2 = .illegalDataAddress ∧ ExCode.ofByte 0x77 = .unknown 0x77 := by decide +kernel
example : handleResponse (.writeSingleCoil 3 true) [5, 0, 3, 0xFF, 0] = .ok (.coil 3 true) := by
  decide +kernel
example : handleResponse (.writeSingleCoil 3 true) [5, 0, 3, 0, 0] = .error .badResponse := by decide +kernel
example : handleResponse (.writeSingleCoil 3 true) [5, 0, 3, 0xFF, 1] = .error .badResponse := by
  decide +kernel
example : handleResponse (.writeSingleRegister 3 500) [6, 0, 3, 1, 0xF4] = .ok (.reg 3 500) := by
  decide +kernel
example : handleResponse (.writeSingleRegister 3 500) [6, 0, 4, 1, 0xF4] = .error .badResponse := by
  decide +kernel
example : handleResponse (.writeMultipleRegisters 1 [10, 258]) [16, 0, 1, 0, 2] =
    .ok (.range ⟨1, 2⟩) := by decide +kernel
example : handleResponse (.writeMultipleRegisters 1 [10, 258]) [16, 0, 1, 0, 3] =
    .error .badResponse := by decide +kernel
/-- an echoed range that is itself invalid -/
example : handleResponse (.writeMultipleRegisters 1 [10, 258]) [16, 0xFF, 0xFF, 0, 2] =
    .error .badRequest := by decide +kernel
example : handleResponse (.writeMultipleRegisters 1 [10, 258]) [16, 0, 1, 0, 0] =
    .error .badRequest := by decide +kernel

/-- an application for the end-to-end theorem: coil `a` is on iff `a` is even, address 5 fails -/
private def demo : Handler Unit where
  readCoil _ a := if a = 5 then .error 2 else .ok (a % 2 = 0)
  readDiscreteInput _ _ := .error 1
  readHoldingRegister _ a := .ok (a + 1000)
  readInputRegister _ _ := .error 1
  writeSingleCoil s _ _ := (.ok (), s)
  writeSingleRegister s _ _ := (.error 4, s)
  writeMultipleCoils s _ _ := (.ok (), s)
  writeMultipleRegisters s _ _ := (.ok (), s)

example : served demo () (.readCoils 0 3) = .ok (.bits [(0, true), (1, false), (2, true)]) := by
  decide +kernel
example : served demo () (.readCoils 3 4) = .error (.exception 2) := by decide +kernel
example : served demo () (.readHoldingRegisters 9 2) = .ok (.regs [(9, 1009), (10, 1010)]) := by
  decide +kernel
example : served demo () (.writeSingleRegister 9 2) = .error (.exception 4) := by decide +kernel

end Rodbus.C04
