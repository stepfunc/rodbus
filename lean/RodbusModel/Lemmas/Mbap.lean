import RodbusModel.Spec.Mbap
import RodbusModel.Lemmas.Reader
/-
  MBAP against its whole-stream specification: `parseHeader` as one equation, one step of
  `specFrames`, the parser as an instance of `Refines` (Lemmas/Reader), the reader states of the
  specification's `Mbap.Reach` (`reach_inv`, `pump_reach`: a read always finds room), and induction along
  the frames of a stream (`specFrames_induct`); `format_length`, `format_wf`.
-/
namespace Rodbus.Mbap

/-- the three ways a 7-byte header is rejected -/
def HeaderErr (e : FrameErr) : Prop :=
  (∃ p, p ≠ 0 ∧ e = .unknownProtocolId p) ∨ (∃ n, 254 < n ∧ e = .frameLengthTooBig n 254)
    ∨ e = .mbapLengthZero

theorem HeaderErr.ne_spurious {e : FrameErr} (h : HeaderErr e) : e ≠ .spuriousEof := by
  rcases h with ⟨_, _, rfl⟩ | ⟨_, _, rfl⟩ | rfl <;> simp

theorem HeaderErr.ne_internal {e : FrameErr} (h : HeaderErr e) : e ≠ .internalShortRead := by
  rcases h with ⟨_, _, rfl⟩ | ⟨_, _, rfl⟩ | rfl <;> simp

/-- the three checks of `parse_header`, against the specification's `badHeaderErr` -/
theorem parseHeader_eq (t1 t0 p1 p0 l1 l0 u : Nat) :
    parseHeader [t1, t0, p1, p0, l1, l0, u] =
      if be16 p1 p0 ≠ 0 ∨ be16 l1 l0 = 0 ∨ 254 < be16 l1 l0 then
        .error (badHeaderErr (be16 p1 p0) (be16 l1 l0))
      else .ok (⟨be16 t1 t0, be16 l1 l0, u⟩, be16 l1 l0 - 1) := by
  simp only [parseHeader, badHeaderErr]
  generalize be16 p1 p0 = p
  generalize be16 l1 l0 = l
  by_cases hp : p ≠ 0
  · simp [hp]
  · by_cases hl : l > 254
    · simp [hp, hl]
    · by_cases h0 : l = 0
      · simp [hp, h0]
      · simp [hp, hl, h0]

theorem badHeaderErr_kind (p l : Nat) : HeaderErr (badHeaderErr p l) := by
  unfold badHeaderErr
  split
  · exact .inl ⟨p, ‹_›, rfl⟩
  · split
    · exact .inr (.inl ⟨l, ‹_›, rfl⟩)
    · exact .inr (.inr rfl)

/-- what `parseHeader` answers on seven bytes: a header error, or a header whose ADU length fits
    a frame and whose bytes are exactly what `format` writes in front of a PDU of that length -/
theorem parseHeader_cases {bs : Bytes} (hl : bs.length = 7) :
    (∃ e, HeaderErr e ∧ parseHeader bs = .error e)
    ∨ ∃ tx adu u, adu ≤ 253 ∧ parseHeader bs = .ok (⟨tx, adu + 1, u⟩, adu)
        ∧ (Bytes.WF bs → ∀ pdu : Bytes, pdu.length = adu → format tx u pdu = bs ++ pdu) := by
  match bs, hl with
  | [t1, t0, p1, p0, l1, l0, u], _ =>
  rw [parseHeader_eq]
  split
  · exact .inl ⟨_, badHeaderErr_kind _ _, rfl⟩
  · rename_i hb
    refine .inr ⟨be16 t1 t0, be16 l1 l0 - 1, u, by omega, ?_, ?_⟩
    · rw [Nat.sub_add_cancel (by omega)]
    · intro hw pdu hpl
      simp only [Bytes.WF_cons] at hw
      obtain ⟨w1, w0, wp1, wp0, wl1, wl0, -⟩ := hw
      obtain ⟨rfl, rfl⟩ : p1 = 0 ∧ p0 = 0 := by unfold be16 at hb; omega
      rw [format, hpl, Nat.sub_add_cancel (by omega), u16be_be16 w1 w0, u16be_be16 wl1 wl0]
      rfl

/-- state-aware form of the whole-stream specification -/
def specFrom : PState → Bytes → List Event
  | .begin, s => specFrames s
  | .header h adu, s =>
    if s.length < adu then []
    else .frame ⟨some h.tx, h.unit, s.take adu⟩ :: specFrames (s.drop adu)

theorem specFrames_short (s : Bytes) (h : s.length < 7) : specFrames s = [] := by
  rw [specFrames]; simp [h]

theorem specFrames_step {s : Bytes} (h : 7 ≤ s.length) :
    specFrames s = match parseHeader (s.take 7) with
      | .error e => [.err e]
      | .ok (hd, adu) => specFrom (.header hd adu) (s.drop 7) := by
  rw [specFrames, dif_neg (by omega)]
  split <;> simp [specFrom, *]

def Inv (rb : RB) : Prop := rb.begin + rb.data.length ≤ CAP

def StOk : PState → Prop
  | .begin => True
  | .header _ adu => adu ≤ 253

def need : PState → Nat
  | .begin => 7
  | .header _ adu => adu

/-- `Sim`'s weight `w` for MBAP: a frame with an empty PDU is completed from `.header _ 0`
    without consuming a byte, so that step has to lower the weight instead -/
def hdr : PState → Nat
  | .begin => 0
  | .header _ _ => 1

theorem parseBody_sim (h : Header) (adu : Nat) (rb : RB) (fut : Bytes) :
    Sim parse specFrom StOk need hdr (.header h adu) rb fut (parseBody h adu rb) := by
  unfold parseBody
  split
  · exact .wait ‹_›
  · have hl : adu ≤ rb.data.length := by omega
    refine ⟨?_, fun _ => trivial, ?_, ?_⟩
    · simp only [specFrom, RB.consume_data, List.length_append, List.take_append_of_le_length hl,
        List.drop_append_of_le_length hl]
      rw [if_neg (by omega)]
    · simp only [RB.consume_data, RB.consume_begin, List.length_drop]; omega
    · simp only [RB.consume_data, List.length_drop, hdr]; omega

theorem parse_sim (st : PState) (rb : RB) (fut : Bytes) :
    Sim parse specFrom StOk need hdr st rb fut (parse st rb) := by
  cases st with
  | header h adu => exact parseBody_sim h adu rb fut
  | begin =>
    simp only [parse]
    split
    · exact .wait ‹_›
    · have hl : 7 ≤ rb.data.length := by omega
      have hs : specFrom .begin (rb.data ++ fut) = _ :=
        specFrames_step (s := rb.data ++ fut) (by simp; omega)
      rw [List.take_append_of_le_length hl, List.drop_append_of_le_length hl] at hs
      have hc : (rb.consume 7).begin + (rb.consume 7).data.length = rb.begin + rb.data.length := by
        simp only [RB.consume_data, RB.consume_begin, List.length_drop]; omega
      rcases parseHeader_cases (bs := rb.data.take 7) (by simp; omega) with
        ⟨e, hk, he⟩ | ⟨tx, adu, u, ha, hok, -⟩
      · rw [he] at hs ⊢
        refine ⟨hs, hk.ne_internal, hk.ne_spurious, hc, ?_⟩
        simp only [RB.consume_data, List.length_drop]; omega
      · rw [hok] at hs ⊢
        refine (parseBody_sim _ adu (rb.consume 7) fut).hop hs (fun _ => ha) hc ?_ fun more => ?_
        · simp only [RB.consume_data, List.length_drop, hdr]; omega
        · -- the header is read from the first seven bytes, whatever follows
          simp only [parse, List.length_append, List.take_append_of_le_length hl]
          rw [if_neg (by omega), hok]
          simp only [RB.consume, List.drop_append_of_le_length hl]

theorem refines : Refines parse specFrom StOk need hdr where
  sim := parse_sim
  blocked := by
    intro st d _ h
    cases st with
    | begin => exact specFrames_short d h
    | header hd adu => exact if_pos h
  need_le := by
    intro st h
    cases st with
    | begin => simp [need, CAP]
    | header _ adu => simp only [need, StOk, CAP] at *; omega
  w_le := by intro st; cases st <;> simp [hdr]

theorem readSome_after_none (st : PState) (rb : RB) (st' : PState) (rb' : RB) (pend : Bytes)
    (hinv : Inv rb) (hst : StOk st) (hp : parse st rb = (.none, st', rb')) :
    Inv rb' ∧ StOk st' ∧ readSome rb' pend ≠ Option.none := by
  have h := parse_sim st rb []
  rw [hp] at h
  have hst' := h.ok hst
  have hinv' : Inv rb' := by have := h.end_eq; unfold Inv at *; omega
  exact ⟨hinv', hst',
    readSome_ne_none pend hinv' (Nat.lt_of_lt_of_le h.short (refines.need_le st' hst'))⟩

theorem reach_inv {st : PState} {rb : RB} (h : Reach st rb) : Inv rb ∧ StOk st := by
  induction h with
  | init => exact ⟨by simp [Inv, RB.empty], trivial⟩
  | @frame st rb f st' rb' _ hp ih =>
    have h := parse_sim st rb []
    rw [hp] at h
    exact ⟨by have := ih.1; have := h.end_eq; unfold Inv at *; omega, h.ok ih.2⟩
  | block _ hp ih =>
    obtain ⟨a, b, -⟩ := readSome_after_none _ _ _ _ [] ih.1 ih.2 hp
    exact ⟨a, b⟩
  | read _ hp hr ih =>
    exact ⟨(readSome_some hr).2.1, (readSome_after_none _ _ _ _ [] ih.1 ih.2 hp).2.1⟩

/-- the states through which `pump` passes, and the one in which it blocks, are reachable; and in
    no reachable state, with no amount of fuel and no delivery, does the loop hit the zero-space
    `read_some` -/
theorem pump_reach : ∀ (fuel : Nat) (st : PState) (rb : RB) (pend : Bytes), Reach st rb →
    Event.err .spuriousEof ∉ (pump parse fuel st rb pend).1
      ∧ ∀ st' rb', (pump parse fuel st rb pend).2 = some (st', rb') → Reach st' rb' := by
  intro fuel
  induction fuel with
  | zero => intro st rb pend hr; exact ⟨by simp [pump], fun _ _ h => by cases h; exact hr⟩
  | succ fuel ih =>
    intro st rb pend hr
    obtain ⟨hi, hs⟩ := reach_inv hr
    unfold pump
    split
    · rename_i f st1 rb1 hp
      obtain ⟨i1, i2⟩ := ih st1 rb1 pend (.frame hr hp)
      exact ⟨by simpa using i1, i2⟩
    · rename_i e st1 rb1 hp
      have hsim := parse_sim st rb []
      rw [hp] at hsim
      exact ⟨by simpa using fun h => hsim.ne_spurious h.symm, fun _ _ h => by cases h⟩
    · rename_i st1 rb1 hp
      split
      · exact ⟨by simp, fun _ _ h => by cases h; exact .block hr hp⟩
      · split
        · rename_i hrs
          exact absurd hrs (readSome_after_none _ _ _ _ pend hi hs hp).2.2
        · rename_i rb2 pend2 hrs
          exact ih st1 rb2 pend2 (.read hr hp hrs)

/-- Induction along the frames of a stream: the specification yields nothing, or a header error
    and nothing else, or the stream starts with a header `hdr` (seven bytes: what `format` writes
    if they are bytes) and the PDU it announces, and the specification goes on behind them. -/
theorem specFrames_induct {motive : Bytes → Prop}
    (nil : ∀ s, specFrames s = [] → motive s)
    (err : ∀ s e, HeaderErr e → specFrames s = [.err e] → motive s)
    (frame : ∀ hdr pdu rest tx u, (Bytes.WF hdr → format tx u pdu = hdr ++ pdu) →
      specFrames (hdr ++ pdu ++ rest) = .frame ⟨some tx, u, pdu⟩ :: specFrames rest →
      motive rest → motive (hdr ++ pdu ++ rest)) (s : Bytes) : motive s := by
  induction hlen : s.length using Nat.strongRecOn generalizing s with
  | _ len ih =>
  by_cases h : s.length < 7
  · exact nil s (specFrames_short s h)
  · have hs := specFrames_step (s := s) (by omega)
    rcases parseHeader_cases (bs := s.take 7) (by simp; omega) with
      ⟨e, hk, h2⟩ | ⟨tx, adu, u, _, h2, hfmt⟩
    · rw [h2] at hs
      exact err s e hk hs
    · rw [h2] at hs
      by_cases hlt : (s.drop 7).length < adu
      · exact nil s (hs.trans (if_pos hlt))
      · have hpl : ((s.drop 7).take adu).length = adu := by
          rw [List.length_take]; omega
        have hcut : s.take 7 ++ (s.drop 7).take adu ++ (s.drop 7).drop adu = s := by
          rw [List.append_assoc, List.take_append_drop, List.take_append_drop]
        have := frame (s.take 7) ((s.drop 7).take adu) ((s.drop 7).drop adu) tx u
          (fun hw => hfmt hw _ hpl) (by rw [hcut]; exact hs.trans (if_neg hlt))
          (ih _ (by simp only [← hlen, List.length_drop]; omega) _ rfl)
        rwa [hcut] at this

theorem specFrames_err_kind (s : Bytes) : ∀ e, Event.err e ∈ specFrames s → HeaderErr e := by
  induction s using specFrames_induct with
  | nil s h => intro e he; rw [h] at he; cases he
  | err s e' hk h =>
    intro e he
    rw [h] at he
    cases List.mem_singleton.1 he
    exact hk
  | frame hdr pdu rest tx u _ h ih =>
    intro e he
    rw [h] at he
    exact ih e (by simpa using he)

theorem specFrames_have_tx (s : Bytes) :
    ∀ f, Event.frame f ∈ specFrames s → ∃ t, f.tx = some t := by
  induction s using specFrames_induct with
  | nil s h => intro f hf; rw [h] at hf; cases hf
  | err s e _ h => intro f hf; rw [h] at hf; cases List.mem_singleton.1 hf
  | frame hdr pdu rest tx u _ h ih =>
    intro f hf
    rw [h] at hf
    rcases List.mem_cons.1 hf with hf | hf
    · cases hf; exact ⟨_, rfl⟩
    · exact ih f hf

theorem format_length (tx unit : Nat) (pdu : Bytes) :
    (format tx unit pdu).length = 7 + pdu.length := by
  simp [format, u16be]; omega

theorem format_wf (tx unit : Nat) (pdu : Bytes) (hu : unit < 256) (hp : Bytes.WF pdu) :
    Bytes.WF (format tx unit pdu) := by
  simp only [format, Bytes.WF_append, Bytes.WF_cons, Bytes.WF_nil, and_true]
  exact ⟨⟨⟨⟨u16be_wf _, by omega, by omega⟩, u16be_wf _⟩, hu⟩, hp⟩

end Rodbus.Mbap
