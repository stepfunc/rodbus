import RodbusModel.Spec.Client
import RodbusModel.Lemmas.Codec
/-
  Lemmas for C03/C04: the model's `encodeRequest` and `handleResponse` against the specification
  of Spec/Client.lean (`rejection` and `pdu`, `WellFormedReply`), the index form of the decoded
  items, and client ∘ server at PDU level.
-/
namespace Rodbus.ClientPdu
open Rodbus.Spec.Client

/-- results are compared by `decide` in the non-vacuity examples -/
instance instDecidableEqExcept {ε α : Type} [DecidableEq ε] [DecidableEq α] :
    DecidableEq (Except ε α)
  | .ok a, .ok b => if h : a = b then isTrue (by rw [h]) else isFalse (by intro e; cases e; exact h rfl)
  | .error a, .error b =>
    if h : a = b then isTrue (by rw [h]) else isFalse (by intro e; cases e; exact h rfl)
  | .ok _, .error _ => isFalse (by intro e; cases e)
  | .error _, .ok _ => isFalse (by intro e; cases e)

theorem tryFrom_ok_iff (s c : Nat) (_hs : s < 65536) (hc : c < 65536) :
    Range.tryFrom s c = .ok ⟨s, c⟩ ↔ c ≠ 0 ∧ s + c ≤ 65536 := by
  rw [Range.tryFrom_ok_iff (Nat.le_of_lt hc)]; simp

theorem u16be_eq (n : Nat) : u16be n = [hi n, lo n] := rfl

theorem be16_hi_lo {n : Nat} (h : n < 65536) : be16 (hi n) (lo n) = n := be16_u16be h

theorem hi_lt (n : Nat) : hi n < 256 := by unfold hi; omega
theorem lo_lt (n : Nat) : lo n < 256 := by unfold lo; omega

theorem be16_eq_iff {a b n : Nat} (ha : a < 256) (hb : b < 256) (hn : n < 65536) :
    be16 a b = n ↔ [a, b] = u16be n :=
  ⟨fun h => h ▸ (u16be_be16 ha hb).symm, fun h => by
    injection h with h1 h2; injection h2 with h2 _; rw [h1, h2]; exact be16_u16be hn⟩

/-- what the client compares an echo with: on bytes, two big-endian reads give `x` and `y`
    exactly when the four bytes are the encoding of `x` and `y` -/
theorem echo_iff {a b c d x y : Nat} (hw : Bytes.WF [a, b, c, d]) (hx : x < 65536)
    (hy : y < 65536) : be16 a b = x ∧ be16 c d = y ↔ [a, b, c, d] = [hi x, lo x, hi y, lo y] := by
  rw [be16_eq_iff (hw a (by simp)) (hw b (by simp)) hx,
    be16_eq_iff (hw c (by simp)) (hw d (by simp)) hy]
  simp [u16be_eq, and_assoc]

theorem bit01_drop (l : List Bool) (n i : Nat) : bit01 (l.drop n) i = bit01 l (n + i) := by
  simp [bit01, List.getD_eq_getElem?_getD, List.getElem?_drop]

theorem packByte_take_succ (l : List Bool) (n : Nat) :
    packByte (l.take (n + 1)) = bit01 l 0 + 2 * packByte ((l.drop 1).take n) := by
  cases l with
  | nil => simp [packByte, bit01]
  | cons a t => cases a <;> simp [packByte, bit01]

theorem packByte_chunk (l : List Bool) (j : Nat) :
    packByte ((l.drop (8 * j)).take 8) = coilByte l j := by
  simp only [packByte_take_succ, List.drop_drop, bit01_drop, List.take_zero, packByte, coilByte,
    Nat.mul_zero, Nat.add_zero, Nat.add_assoc, Nat.reduceAdd]
  omega

theorem packBits_eq_coilBytes (l : List Bool) : packBits l = coilBytes l := by
  apply List.ext_getElem
  · simp [packBits_length, coilBytes, numBytesForBits]
  · intro j h1 _
    have := packBits_getD l j
    rw [List.getD_eq_getElem?_getD, List.getElem?_eq_getElem h1, packByte_chunk] at this
    simpa [coilBytes] using this

theorem packRegs_nil : packRegs [] = [] := rfl

theorem packRegs_eq_regBytes (vs : List Nat) : packRegs vs = regBytes vs := by
  unfold packRegs regBytes
  congr 1

theorem bitAt_eq_bitOf (payload : Bytes) (i : Nat) : bitAt payload i = bitOf payload i := by
  simp [bitAt, bitOf, Nat.testBit_eq_decide_div_mod_eq]

theorem regOf_lt {payload : Bytes} (h : Bytes.WF payload) (i : Nat) : regOf payload i < 65536 :=
  be16_lt (h.getD_lt (2 * i)) (h.getD_lt (2 * i + 1))

theorem indexed_eq_withAddr {α : Type} (s : Nat) (vs : List α) : indexed s vs = withAddr s vs := rfl

theorem indexed_map_range {α : Type} (s n : Nat) (f : Nat → α) :
    indexed s ((List.range n).map f) = (List.range n).map fun i => (s + i, f i) := by
  unfold indexed
  apply List.ext_getElem
  · simp
  · intro i h1 h2
    simp

theorem indexed_length {α : Type} (s : Nat) (vs : List α) : (indexed s vs).length = vs.length :=
  Rodbus.indexed_length s vs

theorem indexed_getElem {α : Type} (s : Nat) (vs : List α) (i : Nat) (h : i < vs.length) :
    (indexed s vs)[i]'(by rw [indexed_length]; exact h) = (s + i, vs[i]) :=
  Rodbus.indexed_getElem s vs i h

theorem unpackBits_indexed (s c : Nat) (payload : Bytes) :
    indexed s (unpackBits payload c) = (List.range c).map fun i => (s + i, bitOf payload i) := by
  unfold unpackBits; rw [indexed_map_range]; simp [bitAt_eq_bitOf]

theorem unpackRegs_indexed (s c : Nat) (payload : Bytes) (h : payload.length = 2 * c) :
    indexed s (unpackRegs payload) = (List.range c).map fun i => (s + i, regOf payload i) := by
  rw [unpackRegs_eq_range payload c h, indexed_map_range]; rfl

def ReadCountU16 : ClientReq → Prop
  | .readCoils _ c => c < 65536
  | .readDiscreteInputs _ c => c < 65536
  | .readHoldingRegisters _ c => c < 65536
  | .readInputRegisters _ c => c < 65536
  | _ => True

theorem ReadCountU16.of_fields {req : ClientReq} (h : req.FieldsU16) : ReadCountU16 req := by
  cases req <;> simp only [ReadCountU16, ClientReq.FieldsU16] at * <;> omega

/-- the four read requests: range check, then the limit of the kind, as the `rejection` cascade -/
theorem readReq_eq (fcb limit s c : Nat) (hc : c < 65536) :
    (match Range.tryFrom s c with
      | .error e => Except.error (ReqErr.badRange e)
      | .ok r =>
        match r.limitedCount limit with
        | .error e => .error (.badRange e)
        | .ok r => .ok (fcb :: u16be r.start ++ u16be r.count)) =
    match (if c = 0 then some (ReqErr.badRange .countOfZero)
      else if s + c > 65536 then some (.badRange .addressOverflow)
      else if c > limit then some (.badRange .countTooLargeForType) else none) with
    | some e => .error e
    | none => .ok [fcb, hi s, lo s, hi c, lo c] := by
  rw [Range.tryFrom_eq (Nat.le_of_lt hc)]
  by_cases h0 : c = 0
  · simp [h0]
  by_cases h1 : s + c > 65536
  · simp [h0, h1]
  by_cases h2 : c > limit <;> simp [h0, h1, h2, Range.limitedCount, u16be_eq]

/-- the two write-multiple requests, for any number `n` of values and payload `tail` -/
theorem multiReq_eq (fcb limit s n : Nat) (tail : Bytes) :
    (if n > 65535 then Except.error ReqErr.countTooBigForU16
      else match Range.tryFrom s n with
        | .error e => .error (.badRange e)
        | .ok r =>
          if r.count > limit then .error .countTooBigForType
          else .ok (fcb :: u16be r.start ++ u16be r.count ++ tail)) =
    match (if n > 65535 then some ReqErr.countTooBigForU16
      else if n = 0 then some (.badRange .countOfZero)
      else if s + n > 65536 then some (.badRange .addressOverflow)
      else if n > limit then some .countTooBigForType else none) with
    | some e => .error e
    | none => .ok ([fcb, hi s, lo s, hi n, lo n] ++ tail) := by
  by_cases hbig : n > 65535
  · simp [hbig]
  rw [Range.tryFrom_eq (by omega)]
  by_cases h0 : n = 0
  · simp [h0]
  by_cases h1 : s + n > 65536
  · simp [hbig, h0, h1]
  by_cases h2 : n > limit <;> simp [hbig, h0, h1, h2, u16be_eq]

/-- Complete characterisation of `encodeRequest`.  For reads the quantity must be a u16: on
    `readCoils 0 70000` the model answers `countTooLargeForType`, `rejection` `addressOverflow`. -/
theorem encode_eq (req : ClientReq) (h : ReadCountU16 req) :
    encodeRequest req = match rejection req with
      | some e => .error e
      | none => .ok (pdu req) := by
  cases req
  case readCoils s c | readDiscreteInputs s c => exact readReq_eq _ 2000 s c h
  case readHoldingRegisters s c | readInputRegisters s c => exact readReq_eq _ 125 s c h
  case writeSingleCoil i v => cases v <;> rfl
  case writeSingleRegister i v => rfl
  case writeMultipleCoils s vals =>
    simp only [pdu, ← packBits_eq_coilBytes]; exact multiReq_eq _ 1968 s vals.length _
  case writeMultipleRegisters s vals => exact multiReq_eq _ 123 s vals.length _

/-- a read request that is encoded at all has a u16 quantity: it passed the limit check -/
theorem encode_ok_readCount {req : ClientReq} {bytes : Bytes} (h : encodeRequest req = .ok bytes) :
    ReadCountU16 req := by
  cases req
  case readCoils s c | readDiscreteInputs s c | readHoldingRegisters s c | readInputRegisters s c =>
    simp only [encodeRequest] at h
    split at h
    · cases h
    · next r0 h1 =>
      split at h
      · cases h
      · next r h2 =>
        have := (Range.tryFrom_limited (by decide) r).1 ⟨r0, h1, h2⟩
        simp only [MAX_READ_COILS_COUNT, MAX_READ_REGISTERS_COUNT] at this
        simp only [ReadCountU16]; omega
  all_goals trivial

theorem encode_ok_spec {req : ClientReq} {bytes : Bytes} (h : encodeRequest req = .ok bytes) :
    rejection req = none ∧ bytes = pdu req := by
  rw [encode_eq req (encode_ok_readCount h)] at h
  split at h
  · cases h
  · next hr => cases h; exact ⟨hr, rfl⟩

theorem ite_some_eq_none {α : Type} {p : Prop} [Decidable p] {a : α} {x : Option α} :
    (if p then some a else x) = none ↔ ¬ p ∧ x = none := by
  split <;> simp [*]

theorem rejection_none_iff (req : ClientReq) (h : req.FieldsU16) :
    rejection req = none ↔ ClientValid req := by
  cases req <;> simp only [rejection, ClientValid, ClientReq.FieldsU16, ite_some_eq_none, eq_self,
    and_true, true_iff] at * <;> omega

theorem coilBytes_length (l : List Bool) : (coilBytes l).length = (l.length + 7) / 8 := by
  simp [coilBytes]

theorem regBytes_length (l : List Nat) : (regBytes l).length = 2 * l.length := by
  rw [← packRegs_eq_regBytes, packRegs_length]

/-- no u16 hypothesis: the length only depends on the number of values -/
theorem pdu_length_le (req : ClientReq) (h : rejection req = none) : (pdu req).length ≤ 253 := by
  cases req <;> simp only [rejection, ite_some_eq_none, pdu, List.length_cons, List.length_nil,
    List.length_append, coilBytes_length, regBytes_length] at * <;> omega

theorem encode_len_le {req : ClientReq} {bytes : Bytes} (h : encodeRequest req = .ok bytes) :
    bytes.length ≤ 253 := by
  obtain ⟨hr, rfl⟩ := encode_ok_spec h
  exact pdu_length_le req hr

/-- the fields are bytes by construction (`hi`, `lo`, packed values); what needs the limits is
    the byte-count field of a write-multiple request, `⌈n/8⌉` resp. `2n` -/
theorem pdu_wf (req : ClientReq) (h : rejection req = none) : Bytes.WF (pdu req) := by
  cases req <;> simp only [rejection, ite_some_eq_none, pdu, Bytes.WF_cons, Bytes.WF_append,
    Bytes.WF_nil, hi_lt, lo_lt, ← packBits_eq_coilBytes, packBits_wf, ← packRegs_eq_regBytes,
    packRegs_wf, true_and, and_true] at * <;> first | omega | (split <;> omega)

theorem clientValid_fields {req : ClientReq} (h : ClientValid req) : req.FieldsU16 := by
  cases req <;> simp only [ClientValid, ClientReq.FieldsU16] at * <;> omega

theorem pdu_head (req : ClientReq) : pdu req = req.fc.toByte :: (pdu req).tail := by
  cases req <;> rfl

theorem parseRange_enc {s c : Nat} (h0 : c ≠ 0) (hc : c < 65536) (h : s + c ≤ 65536)
    (rest : Bytes) : parseRange (hi s :: lo s :: hi c :: lo c :: rest) = some (⟨s, c⟩, rest) := by
  simp [parseRange, be16_hi_lo (show s < 65536 by omega), be16_hi_lo hc, Range.tryFrom_ok h0 h]

theorem parse_pdu (req : ClientReq) (h : ClientValid req) (hv : req.ValuesU16) :
    parseRequest req.fc (pdu req).tail = some (toServer req) := by
  cases req
  case readCoils s c | readDiscreteInputs s c | readHoldingRegisters s c | readInputRegisters s c =>
    obtain ⟨-, -, h3, h4, h5⟩ := h
    simp [pdu, ClientReq.fc, parseRequest, parseReadRange,
      parseRange_enc (Nat.ne_of_gt h3) (by omega) h4, Range.limitedCount, MAX_READ_COILS_COUNT,
      MAX_READ_REGISTERS_COUNT, toServer, Nat.not_lt.2 h5]
  case writeSingleCoil i v =>
    have e : hi i * 256 + lo i = i := be16_hi_lo h
    cases v <;> simp [pdu, ClientReq.fc, parseRequest, toServer, coilFromU16, be16, e, COIL_ON,
      COIL_OFF]
  case writeSingleRegister i v =>
    simp [pdu, ClientReq.fc, parseRequest, be16_hi_lo h.1, be16_hi_lo h.2, toServer]
  case writeMultipleCoils s vals =>
    obtain ⟨h3, h5, h4⟩ := h
    simp [pdu, ClientReq.fc, parseRequest, parseRange_enc (Nat.ne_of_gt h3) (by omega) h4,
      Range.limitedCount, MAX_WRITE_COILS_COUNT, toServer, Nat.not_lt.2 h5, ← packBits_eq_coilBytes,
      packBits_length, numBytesForBits, unpackBits_packBits]
  case writeMultipleRegisters s vals =>
    obtain ⟨h3, h5, h4⟩ := h
    simp [pdu, ClientReq.fc, parseRequest, parseRange_enc (Nat.ne_of_gt h3) (by omega) h4,
      Range.limitedCount, MAX_WRITE_REGISTERS_COUNT, toServer, Nat.not_lt.2 h5,
      ← packRegs_eq_regBytes, packRegs_length, unpackRegs_packRegs vals hv]

theorem fc_toByte_lt (fc : Fc) : fc.toByte < 128 := Fc.toByte_lt fc

theorem handle_nil (req : ClientReq) : handleResponse req [] = .error .badResponse := rfl

/-- replies whose first byte is not the function code: `get_error_for` -/
theorem handle_ne (req : ClientReq) (f : Nat) (body : Bytes) (h : f ≠ req.fc.toByte) :
    handleResponse req (f :: body) =
      if f = orErr req.fc.toByte then
        match body with
        | [code] => .error (.exception code)
        | _ => .error .badResponse
      else .error .badResponse := by
  unfold handleResponse
  simp only [h, ne_eq, not_false_eq_true, if_true]
  split
  · split <;> simp_all
  · rfl

theorem handle_exception_pdu (req : ClientReq) (c : Nat) :
    handleResponse req [orErr req.fc.toByte, c] = .error (.exception c) := by
  rw [handle_ne req _ _ (by rw [orErr_toByte]; omega)]; simp

/-- The outcomes of `handleResponse` and what each says about the reply: data only if it is headed
    by the function code, an exception only for `[fc | 0x80, code]`, `badRequest` only for the one
    cause there is, a range echoed to a write-multiple request that is itself invalid.
    (The result is named first, so that one copy of the `match` is split instead of four.) -/
theorem handle_cases (req : ClientReq) (pdu : Bytes) :
    (∃ v body, handleResponse req pdu = .ok v ∧ pdu = req.fc.toByte :: body) ∨
    (∃ c, handleResponse req pdu = .error (.exception c) ∧ pdu = [orErr req.fc.toByte, c]) ∨
    handleResponse req pdu = .error .badResponse ∨
    (handleResponse req pdu = .error .badRequest ∧
      (req.fc = .writeMultipleCoils ∨ req.fc = .writeMultipleRegisters) ∧
      ∃ a b c d rest e, pdu = req.fc.toByte :: a :: b :: c :: d :: rest ∧
        Range.tryFrom (be16 a b) (be16 c d) = .error e) := by
  generalize hr : handleResponse req pdu = r
  match pdu with
  | [] => exact .inr (.inr (.inl hr.symm))
  | f :: body =>
    by_cases hf : f = req.fc.toByte
    · subst hf
      cases req
      case writeMultipleCoils s vals | writeMultipleRegisters s vals =>
        simp only [handleResponse, ClientReq.fc, ne_eq, not_true_eq_false, if_false] at hr
        split at hr
        · next a b c d rest =>
          split at hr
          · next e he =>
            exact .inr (.inr (.inr ⟨hr.symm, by first | exact .inl rfl | exact .inr rfl, a, b, c, d,
              rest, e, rfl, he⟩))
          · (repeat' split at hr) <;>
              first | exact .inl ⟨_, _, hr.symm, rfl⟩ | exact .inr (.inr (.inl hr.symm))
        · exact .inr (.inr (.inl hr.symm))
      all_goals
        simp only [handleResponse, ClientReq.fc, ne_eq, not_true_eq_false, if_false] at hr
        (repeat' split at hr) <;>
          first | exact .inl ⟨_, _, hr.symm, rfl⟩ | exact .inr (.inr (.inl hr.symm))
    · rw [handle_ne req f body hf] at hr
      split at hr
      · next hfe =>
        subst hfe
        split at hr
        · exact .inr (.inl ⟨_, hr.symm, rfl⟩)
        · exact .inr (.inr (.inl hr.symm))
      · exact .inr (.inr (.inl hr.symm))

theorem exception_iff (req : ClientReq) (pdu : Bytes) (c : Nat) :
    handleResponse req pdu = .error (.exception c) ↔ pdu = [orErr req.fc.toByte, c] := by
  constructor
  · intro h
    rcases handle_cases req pdu with ⟨_, _, hv, _⟩ | ⟨c', hv, hp⟩ | hv | ⟨hv, _⟩
    all_goals rw [hv] at h; cases h
    exact hp
  · rintro rfl; exact handle_exception_pdu req c

/-- against the specification's `ExceptionReply`, which writes `fc + 128` for `fc | 0x80` -/
theorem exception_iff_spec (req : ClientReq) (pdu : Bytes) (c : Nat) :
    handleResponse req pdu = .error (.exception c) ↔ ExceptionReply req pdu c := by
  rw [exception_iff, orErr_toByte]; rfl

theorem ok_head {req : ClientReq} {pdu : Bytes} {v : RespVal} (h : handleResponse req pdu = .ok v) :
    ∃ body, pdu = req.fc.toByte :: body := by
  rcases handle_cases req pdu with ⟨_, body, _, hp⟩ | ⟨_, hv, _⟩ | hv | ⟨hv, _⟩
  · exact ⟨body, hp⟩
  all_goals rw [hv] at h; cases h

theorem wellFormed_head {req : ClientReq} {pdu : Bytes} {v : RespVal}
    (h : WellFormedReply req pdu v) : ∃ body, pdu = req.fc.toByte :: body := by
  cases req <;> simp only [WellFormedReply] at h
  case writeSingleCoil | writeSingleRegister | writeMultipleCoils | writeMultipleRegisters =>
    exact ⟨_, h.1⟩
  all_goals obtain ⟨bc, payload, rfl, _⟩ := h; exact ⟨_, rfl⟩

theorem ite_ok_eq_ok {ε α : Type} {p : Prop} [Decidable p] {a v : α} {e : ε} :
    (if p then Except.ok a else .error e) = .ok v ↔ p ∧ v = a := by
  split <;> simp [*, eq_comm]

theorem coilFromU16_eq_some {y : Nat} {v : Bool} : coilFromU16 y = some v ↔ y = coilToU16 v := by
  unfold coilFromU16 coilToU16 COIL_ON COIL_OFF
  cases v <;> (repeat' split) <;> simp_all

/-- the echo test of write-single-coil: the value field must be the encoding of the coil -/
theorem coil_echo {P : Prop} [Decidable P] {y : Nat} {v : Bool} {r r' : RespVal} :
    (match coilFromU16 y with
      | none => Except.error RespErr.badResponse
      | some v' => if P ∧ v' = v then .ok r else .error .badResponse) = .ok r' ↔
      (P ∧ y = coilToU16 v) ∧ r' = r := by
  cases h : coilFromU16 y with
  | none =>
    have : y ≠ coilToU16 v := fun e => by rw [coilFromU16_eq_some.2 e] at h; cases h
    simp [this]
  | some v' =>
    rw [coilFromU16_eq_some] at h
    subst h
    simp only [ite_ok_eq_ok]
    cases v <;> cases v' <;> simp [coilToU16, COIL_ON, COIL_OFF]

/-- the echo test of the write-multiple requests, for a valid range `⟨s, n⟩` -/
theorem range_echo {a b c d s n : Nat} {rest : Bytes} {v : RespVal} (hw : Bytes.WF [a, b, c, d])
    (hn : n ≠ 0) (hn16 : n < 65536) (hsn : s + n ≤ 65536) :
    (match Range.tryFrom (be16 a b) (be16 c d) with
      | .error _ => Except.error RespErr.badRequest
      | .ok r =>
        if r ≠ (⟨s, n⟩ : Range) then .error .badResponse
        else if rest ≠ [] then .error .badResponse else .ok (RespVal.range r)) = .ok v ↔
      [a, b, c, d] = [hi s, lo s, hi n, lo n] ∧ rest = [] ∧ v = .range ⟨s, n⟩ := by
  rw [← echo_iff hw (by omega) hn16]
  cases htf : Range.tryFrom (be16 a b) (be16 c d) with
  | error e =>
    simp only [reduceCtorEq, false_iff]
    rintro ⟨⟨rfl, rfl⟩, -⟩
    rw [Range.tryFrom_ok hn hsn] at htf; cases htf
  | ok r =>
    obtain ⟨rfl, -⟩ := Range.tryFrom_ok_eq htf
    by_cases he : be16 a b = s ∧ be16 c d = n
    · obtain ⟨rfl, rfl⟩ := he
      by_cases hr : rest = [] <;> simp [hr, eq_comm]
    · have : (⟨be16 a b, be16 c d⟩ : Range) ≠ ⟨s, n⟩ := fun e => he (by cases e; exact ⟨rfl, rfl⟩)
      simp [this, he]

/-- only the echo comparison of the writes needs the reply to consist of bytes -/
theorem success_iff_of_echo_wf (req : ClientReq) (pdu : Bytes) (v : RespVal) (hv : ClientValid req)
    (hw : req.fc.isRead = false → Bytes.WF pdu) :
    handleResponse req pdu = .ok v ↔ WellFormedReply req pdu v := by
  by_cases hd : ∃ body, pdu = req.fc.toByte :: body
  case neg => exact ⟨fun h => absurd (ok_head h) hd, fun h => absurd (wellFormed_head h) hd⟩
  obtain ⟨body, rfl⟩ := hd
  have hwb := fun h => (Bytes.WF_cons.1 (hw h)).2
  cases req
  case readCoils s c | readDiscreteInputs s c =>
    cases body with
    | nil => simp [handleResponse, WellFormedReply]
    | cons bc payload =>
      simp [handleResponse, WellFormedReply, ite_ok_eq_ok, unpackBits_indexed, numBytesForBits,
        and_assoc]
  case readHoldingRegisters s c | readInputRegisters s c =>
    cases body with
    | nil => simp [handleResponse, WellFormedReply]
    | cons bc payload =>
      simp only [handleResponse, WellFormedReply, ite_ok_eq_ok, ne_eq, not_true_eq_false,
        if_false, List.cons.injEq, true_and, and_assoc, exists_and_left, exists_eq_left']
      exact and_congr_right fun hl => by rw [unpackRegs_indexed _ _ _ hl]
  case writeSingleCoil i b =>
    simp only [handleResponse, ClientReq.fc, Fc.toByte, ne_eq, not_true_eq_false, if_false,
      WellFormedReply]
    split
    · next a b' c d =>
      refine coil_echo.trans ?_
      rw [echo_iff (hwb rfl) hv (by cases b <;> decide : coilToU16 b < 65536)]
      cases b <;> simp [coilToU16, COIL_ON, COIL_OFF, hi, lo]
    · next hne => exact ⟨nofun, fun ⟨h, _⟩ => by cases h; exact (hne _ _ _ _ rfl).elim⟩
  case writeSingleRegister i x =>
    simp only [handleResponse, ClientReq.fc, Fc.toByte, ne_eq, not_true_eq_false, if_false,
      WellFormedReply]
    split
    · next a b c d =>
      simp only [ite_ok_eq_ok, echo_iff (hwb rfl) hv.1 hv.2, List.cons.injEq, true_and]
    · next hne => exact ⟨nofun, fun ⟨h, _⟩ => by cases h; exact (hne _ _ _ _ rfl).elim⟩
  case writeMultipleCoils s vals | writeMultipleRegisters s vals =>
    simp only [handleResponse, ClientReq.fc, Fc.toByte, ne_eq, not_true_eq_false, if_false,
      WellFormedReply]
    split
    · next a b c d rest =>
      have hw4 : Bytes.WF [a, b, c, d] := fun x hx => hwb rfl x (by simp at hx ⊢; omega)
      refine (range_echo hw4 (by have := hv.1; omega) (by have := hv.2.1; omega) hv.2.2).trans ?_
      simp [and_assoc]
    · next hne => exact ⟨nofun, fun ⟨h, _⟩ => by cases h; exact (hne _ _ _ _ _ rfl).elim⟩

theorem success_iff (req : ClientReq) (pdu : Bytes) (v : RespVal) (hv : ClientValid req)
    (hw : Bytes.WF pdu) : handleResponse req pdu = .ok v ↔ WellFormedReply req pdu v :=
  success_iff_of_echo_wf req pdu v hv fun _ => hw

/-- the genuine reply is accepted, whatever its bytes: an echo that is well formed consists of
    the bytes `hi`, `lo` of its fields -/
theorem handle_wellFormed {req : ClientReq} {pdu : Bytes} {v : RespVal} (hv : ClientValid req)
    (h : WellFormedReply req pdu v) : handleResponse req pdu = .ok v := by
  refine (success_iff_of_echo_wf req pdu v hv fun hr => ?_).2 h
  cases req <;> first | cases hr | skip
  all_goals
    obtain ⟨rfl, -⟩ := h
    simp only [Bytes.WF_cons, Bytes.WF_nil, hi_lt, lo_lt, and_true, true_and]
    first | decide | (split <;> decide)

theorem badRequest_iff (req : ClientReq) (pdu : Bytes) (hw : Bytes.WF pdu) :
    handleResponse req pdu = .error .badRequest ↔
      (req.fc = .writeMultipleCoils ∨ req.fc = .writeMultipleRegisters) ∧
      ∃ a b c d rest, pdu = req.fc.toByte :: a :: b :: c :: d :: rest ∧
        (be16 c d = 0 ∨ be16 a b + be16 c d > 65536) := by
  have key : ∀ a b c d rest, pdu = req.fc.toByte :: a :: b :: c :: d :: rest →
      ((∃ e, Range.tryFrom (be16 a b) (be16 c d) = .error e) ↔
        (be16 c d = 0 ∨ be16 a b + be16 c d > 65536)) := by
    rintro a b c d rest rfl
    exact Range.tryFrom_error_iff (Nat.le_of_lt (be16_lt (hw c (by simp)) (hw d (by simp))))
  constructor
  · intro h
    rcases handle_cases req pdu with
      ⟨_, _, hv, _⟩ | ⟨_, hv, _⟩ | hv | ⟨_, hm, a, b, c, d, rest, e, hp, he⟩
    · rw [hv] at h; cases h
    · rw [hv] at h; cases h
    · rw [hv] at h; cases h
    · exact ⟨hm, a, b, c, d, rest, hp, (key _ _ _ _ _ hp).1 ⟨e, he⟩⟩
  · rintro ⟨hfc, a, b, c, d, rest, rfl, harith⟩
    obtain ⟨e, he⟩ := (key _ _ _ _ _ rfl).2 harith
    cases req <;> simp [ClientReq.fc] at hfc <;>
      simp [handleResponse, ClientReq.fc, Fc.toByte, he]

theorem otherwise_error (req : ClientReq) (pdu : Bytes) (hv : ClientValid req) (hw : Bytes.WF pdu)
    (h1 : ¬ ∃ v, WellFormedReply req pdu v) (h2 : ¬ ∃ c, ExceptionReply req pdu c) :
    handleResponse req pdu = .error .badResponse ∨ handleResponse req pdu = .error .badRequest := by
  rcases handle_cases req pdu with ⟨v, _, h, _⟩ | ⟨c, hc, _⟩ | h | ⟨h, _⟩
  · exact absurd ⟨v, (success_iff req pdu v hv hw).1 h⟩ h1
  · exact absurd ⟨c, (exception_iff_spec req pdu c).1 hc⟩ h2
  · exact .inl h
  · exact .inr h

theorem readAll_eq {α : Type} (get : Nat → Except Nat α) (s n : Nat) :
    readAll get s n = ((List.range n).map (s + ·)).mapM get := by
  unfold readAll; rw [List.mapM_map]; rfl

theorem readSeq_range {α : Type} (get : Nat → Except Nat α) (r : Range) :
    (readSeq get r.addresses).2 = readAll get r.start r.count := by
  rw [readSeq_snd, readAll_eq]; rfl

theorem mapM_ok_iff_map {α : Type} (get : Nat → Except Nat α) (as : List Nat) (vs : List α) :
    as.mapM get = .ok vs ↔ as.map get = vs.map .ok := by
  induction as generalizing vs with
  | nil => cases vs <;> simp [pure, Except.pure]
  | cons a t ih =>
    rw [List.mapM_cons]
    cases hg : get a <;> cases hm : t.mapM get <;> cases vs <;>
      simp_all [bind, Except.bind, pure, Except.pure]

theorem readAll_ok_iff {α : Type} (get : Nat → Except Nat α) (s n : Nat) (vs : List α) :
    readAll get s n = .ok vs ↔
      vs.length = n ∧ ∀ i (h : i < vs.length), get (s + i) = .ok vs[i] := by
  rw [readAll_eq, mapM_ok_iff_map, List.ext_getElem_iff]
  simp only [List.length_map, List.length_range, List.getElem_map, List.getElem_range,
    eq_comm (a := n)]
  constructor
  · intro ⟨h1, h2⟩; exact ⟨h1, fun i h => h2 i (by omega) h⟩
  · intro ⟨h1, h2⟩; exact ⟨h1, fun i _ h => h2 i h⟩

theorem readAll_u16 {get : Nat → Except Nat Nat} {s n : Nat} {vs : List Nat}
    (hg : ∀ a v, get a = .ok v → v < 65536) (h : readAll get s n = .ok vs) :
    ∀ v ∈ vs, v < 65536 := by
  intro v hmem
  obtain ⟨i, hi, rfl⟩ := List.getElem_of_mem hmem
  exact hg _ _ (((readAll_ok_iff _ _ _ _).1 h).2 i hi)

/-- Client ∘ server at PDU level.  In every case the server's reply is the good PDU or the
    exception PDU, on the same test as `served`; the exception PDU is `handle_exception_pdu`. -/
theorem end_to_end {σ : Type} (H : Handler σ) (u : Nat) (s : σ) (req : ClientReq)
    (hv : ClientValid req) (hu : HandlerU16 H s) :
    handleResponse req (getReply H u s (toServer req)).1 = served H s req := by
  cases req
  case readCoils st c | readDiscreteInputs st c =>
    simp only [toServer, getReply, served, readSeq_range]
    split <;> rename_i hr <;> simp only [hr]
    · obtain rfl := ((readAll_ok_iff _ _ _ _).1 hr).1
      exact handle_wellFormed hv ⟨_, _, rfl, packBits_length _,
        by rw [← unpackBits_indexed, unpackBits_packBits]; rfl⟩
    · exact handle_exception_pdu _ _
  case readHoldingRegisters st c | readInputRegisters st c =>
    simp only [toServer, getReply, served, readSeq_range]
    split <;> rename_i vs hr <;> simp only [hr]
    · have h16 := readAll_u16 (by first | exact hu.1 | exact hu.2) hr
      obtain rfl := ((readAll_ok_iff _ _ _ _).1 hr).1
      exact handle_wellFormed hv ⟨_, _, rfl, packRegs_length vs,
        by rw [← unpackRegs_indexed _ _ _ (packRegs_length vs), unpackRegs_packRegs vs h16]; rfl⟩
    · exact handle_exception_pdu _ _
  case writeSingleCoil i v =>
    simp only [toServer, getReply, served, writeOutcome]
    split <;> rename_i hr <;> simp only [hr]
    · exact handle_wellFormed hv ⟨by cases v <;> rfl, rfl⟩
    · exact handle_exception_pdu _ _
  case writeSingleRegister i v | writeMultipleCoils st vals | writeMultipleRegisters st vals =>
    simp only [toServer, getReply, served, writeOutcome, indexed_eq_withAddr]
    split <;> rename_i hr <;> simp only [hr]
    · exact handle_wellFormed hv ⟨rfl, rfl⟩
    · exact handle_exception_pdu _ _

end Rodbus.ClientPdu
