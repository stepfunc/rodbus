import RodbusModel.Lemmas.Lifecycle
/-
  One description of `Life.step`.  `Core` is the part of the task state the life-cycle invariants
  speak of; `Eff ph c nx c'` lists what one iteration of the task can do to it (`step_eff`), so an
  invariant of `advance` is a case analysis on `Eff` (`advance_eff`, and `advance_eff_fuel` where the
  fuel suffices; `advance_sat_fuel` is that principle on states, for what `Core` leaves out).
-/
namespace Rodbus.Life
open Rodbus.Spec.Life

/-- Left out: `behaviours`, `maxto`, `tcount`, `served`, `decode`, `coins`, `starved`.  A statement
    about one of those is no instance of `Inv` (Lemmas/LifecycleInv); for a single call of `advance`
    there is `advance_sat_fuel`, which works on states. -/
structure Core where
  enabled : Bool
  queue : List Cmd
  handles : Bool
  retry : Retry.Doubling
  cur : Behaviour
  log : List Ev
  conn : Bool
  unreported : Bool
  alive : Bool

def core (s : S) : Core :=
  ⟨s.enabled, s.queue, s.handles, s.retry, s.cur, s.log, s.conn, s.unreported, s.alive⟩

inductive Next
  | cont (ph : Phase)
  | halt (pos : Pos)

def Res.next : Res → Next
  | .cont ph _ => .cont ph
  | .halt _ pos => .halt pos

def Next.sat (P : Phase → Core → Prop) (Q : Core → Pos → Prop) (c : Core) : Next → Prop
  | .cont ph => P ph c
  | .halt pos => Q c pos

theorem Next.sat_imp {P P' : Phase → Core → Prop} {Q Q' : Core → Pos → Prop} {c : Core} {nx : Next}
    (hp : ∀ ph, P ph c → P' ph c) (hq : ∀ pos, Q c pos → Q' c pos) (h : nx.sat P Q c) :
    nx.sat P' Q' c := by
  cases nx with
  | cont ph => exact hp ph h
  | halt pos => exact hq pos h

/-- phases in which the task holds a connection -/
def isSession : Phase → Bool
  | .sessionStart _ | .session _ => true
  | _ => false

/-- the connection is dropped when a session phase is left -/
@[simp] def Core.leave (c : Core) (ph : Phase) : Core :=
  { c with conn := !isSession ph && c.conn, unreported := isSession ph || c.unreported }

/-- the phases in which the command queue is read, with what `step` has tested on the way -/
def Reads (ph : Phase) (c : Core) : Prop :=
  match ph with
  | .waitEnabled => c.enabled = false
  | .connect | .failFor => True
  | .session b => b.fails = false
  | _ => False

/-- An over-approximation of `step`: what `step` tests on the fields `Core` leaves out is forgotten,
    so `lost` and `answerLost` are possible in every session, and `answer` with any result. -/
inductive Eff : Phase → Core → Next → Core → Prop
  | finish (c : Core) : Eff .finished c (.halt .done)
      { c with log := c.log ++ shutdownEvents c.queue, queue := [], alive := false }
  | disabled (c : Core) : Eff .afterDisable c (.halt (.gate .disabled .waitEnabled)) c
  /-- the environment of the attempt is fixed when `Connecting` is announced -/
  | dial (c : Core) (b : Behaviour) : c.enabled = true →
      Eff .waitEnabled c (.halt (.gate .connecting .connect)) { c with cur := b }
  | timer (c : Core) : c.queue = [] → c.handles = true → Eff .failFor c (.cont .waitEnabled) c
  | failed (c : Core) : c.queue = [] → c.handles = true → c.cur.fails = true →
      Eff .connect c (.halt (.gate (.waitFail (Retry.afterFailedConnect c.retry).1) .failFor))
        { c with retry := (Retry.afterFailedConnect c.retry).2 }
  | connected (c : Core) : c.queue = [] → c.handles = true → c.cur.fails = false →
      Eff .connect c (.halt (.gate .connected (.sessionStart c.cur))) { c with conn := true }
  | begin (c : Core) (b : Behaviour) :
      Eff (.sessionStart b) c (.cont (.session b)) { c with retry := Retry.reset c.retry }
  | stuck (c : Core) (b : Behaviour) : b.fails = true →
      Eff (.session b) c (.halt (.idle (.session b))) c
  | sleep (c : Core) (ph : Phase) : Reads ph c → ph ≠ .connect → ph ≠ .failFor →
      c.queue = [] → c.handles = true → Eff ph c (.halt (.idle ph)) c
  | orphaned (c : Core) (ph : Phase) : Reads ph c → c.queue = [] → c.handles = false →
      Eff ph c (.halt (.gate .shutdown .finished)) (c.leave ph)
  | shutdown (c : Core) (ph : Phase) (q : List Cmd) : Reads ph c → c.queue = .shutdown :: q →
      Eff ph c (.halt (.gate .shutdown .finished)) ({ c with queue := q }.leave ph)
  | disable (c : Core) (ph : Phase) (q : List Cmd) : Reads ph c → ph ≠ .waitEnabled →
      c.queue = .disable :: q →
      Eff ph c (.cont .afterDisable) ({ c with queue := q, enabled := false }.leave ph)
  | enable (c : Core) (q : List Cmd) : Reads .waitEnabled c → c.queue = .enable :: q →
      Eff .waitEnabled c (.cont .waitEnabled) { c with queue := q, enabled := true }
  /-- a command that changes nothing the invariants speak of -/
  | skip (c : Core) (ph : Phase) (x : Cmd) (q : List Cmd) : Reads ph c → c.queue = x :: q →
      ((∃ l, x = .decode l) ∨ (x = .enable ∧ ph ≠ .waitEnabled) ∨ (x = .disable ∧ ph = .waitEnabled)) →
      Eff ph c (.cont ph) { c with queue := q }
  | answer (c : Core) (ph : Phase) (id : Nat) (r : String) (q : List Cmd) : Reads ph c →
      c.queue = .request id :: q → (isSession ph = false → r = "noconn") →
      Eff ph c (.cont ph) { c with queue := q, log := c.log ++ [.done id r] }
  /-- the request is lost with the connection -/
  | answerLost (c : Core) (b : Behaviour) (id : Nat) (r : String) (q : List Cmd) : b.fails = false →
      c.queue = .request id :: q →
      Eff (.session b) c (.halt (.gate (.waitDisc (Retry.afterDisconnect c.retry)) .failFor))
        { c with queue := q, log := c.log ++ [.done id r], conn := false, unreported := true }
  | lost (c : Core) (b : Behaviour) : b.fails = false →
      Eff (.session b) c (.halt (.gate (.waitDisc (Retry.afterDisconnect c.retry)) .failFor))
        { c with conn := false, unreported := true }

theorem flush_eq (s : S) : flush s = { s with log := s.log ++ shutdownEvents s.queue } := by
  have : ∀ (q : List Cmd) (s : S), q.foldl (fun s c => match c with
      | .request id => s.emit (.done id "shutdown")
      | _ => s) s = { s with log := s.log ++ shutdownEvents q } := by
    intro q
    induction q with
    | nil => intro s; simp [shutdownEvents]
    | cons c q ih =>
      intro s
      rw [List.foldl_cons, ih]
      cases c <;> simp [shutdownEvents, S.emit]
  exact this s.queue s

theorem step_eff (ph : Phase) (s : S) :
    Eff ph (core s) (step ph s).next (core (step ph s).state) := by
  cases ph with
  | finished => simp only [step, flush_eq]; exact .finish (core s)
  | afterDisable => exact .disabled (core s)
  | sessionStart b => exact .begin (core s) b
  | waitEnabled =>
    simp only [step]
    by_cases he : s.enabled = true
    · -- `nextBehaviour` changes `behaviours` only, which `core` leaves out
      rw [if_pos he, nextBehaviour_snd]
      exact .dial (core s) _ he
    · rw [if_neg he]
      have hr : Reads .waitEnabled (core s) := (Bool.not_eq_true _).mp he
      cases hq : s.queue with
      | nil =>
        cases hh : s.handles
        · exact .orphaned (core s) .waitEnabled hr hq hh
        · exact .sleep (core s) .waitEnabled hr nofun nofun hq hh
      | cons x q =>
        cases x with
        | request id => exact .answer (core s) _ id _ q hr hq (fun _ => rfl)
        | enable => exact .enable (core s) q hr hq
        | disable => exact .skip (core s) _ _ q hr hq (.inr (.inr ⟨rfl, rfl⟩))
        | decode l => exact .skip (core s) _ _ q hr hq (.inl ⟨l, rfl⟩)
        | shutdown => exact .shutdown (core s) _ q hr hq
  | connect =>
    simp only [step]
    have hr : Reads .connect (core s) := trivial
    cases hq : s.queue with
    | nil =>
      cases hh : s.handles
      · exact .orphaned (core s) .connect hr hq hh
      · cases hc : s.cur.fails
        · simpa [core, hq, hh, hc, Res.next, Res.state] using Eff.connected (core s) hq hh hc
        · simpa [core, hq, hh, hc, Res.next, Res.state] using Eff.failed (core s) hq hh hc
    | cons x q =>
      cases x with
      | request id => exact .answer (core s) _ id _ q hr hq (fun _ => rfl)
      | enable => exact .skip (core s) _ _ q hr hq (.inr (.inl ⟨rfl, by simp⟩))
      | disable => exact .disable (core s) _ q hr (by simp) hq
      | decode l => exact .skip (core s) _ _ q hr hq (.inl ⟨l, rfl⟩)
      | shutdown => exact .shutdown (core s) _ q hr hq
  | failFor =>
    simp only [step]
    have hr : Reads .failFor (core s) := trivial
    cases hq : s.queue with
    | nil =>
      cases hh : s.handles
      · exact .orphaned (core s) .failFor hr hq hh
      · exact .timer (core s) hq hh
    | cons x q =>
      cases x with
      | request id => exact .answer (core s) _ id _ q hr hq (fun _ => rfl)
      | enable => exact .skip (core s) _ _ q hr hq (.inr (.inl ⟨rfl, by simp⟩))
      | disable => exact .disable (core s) _ q hr (by simp) hq
      | decode l => exact .skip (core s) _ _ q hr hq (.inl ⟨l, rfl⟩)
      | shutdown => exact .shutdown (core s) _ q hr hq
  | session b =>
    simp only [step]
    cases hb : b.fails with
    | true => exact .stuck (core s) b hb
    | false =>
      have hr : Reads (.session b) (core s) := hb
      simp only [Bool.false_eq_true, ↓reduceIte]
      cases hq : s.queue with
      | nil =>
        cases hg : b.gone s.served <;> cases hh : s.handles <;>
          simp only [Bool.false_eq_true, ↓reduceIte, lost_eq]
        · exact .orphaned (core s) _ hr hq hh
        · exact .sleep (core s) _ hr (by simp) (by simp) hq hh
        · -- the peer is gone and so is every handle: the coin decides which is seen first
          cases hc : s.coinVal <;> simp only [Bool.false_eq_true, ↓reduceIte]
          · exact .orphaned (core s) _ hr hq hh
          · exact .lost (core s) b hb
        · exact .lost (core s) b hb
      | cons x q =>
        cases hg : b.gone s.served with
        | true =>
          cases hc : s.coinVal with
          | true => simp only [↓reduceIte, lost_eq]; exact .lost (core s) b hb
          | false =>
            simp only [Bool.false_eq_true, ↓reduceIte, lost_eq]
            cases x with
            | request id => exact .answerLost (core s) b id _ q hb hq
            | enable => exact .skip (core s) _ _ q hr hq (.inr (.inl ⟨rfl, by simp⟩))
            | disable => exact .disable (core s) _ q hr (by simp) hq
            | decode l => exact .skip (core s) _ _ q hr hq (.inl ⟨l, rfl⟩)
            | shutdown => exact .shutdown (core s) _ q hr hq
        | false =>
          simp only [Bool.false_eq_true, ↓reduceIte]
          cases x with
          | enable => exact .skip (core s) _ _ q hr hq (.inr (.inl ⟨rfl, by simp⟩))
          | disable => exact .disable (core s) _ q hr (by simp) hq
          | decode l => exact .skip (core s) _ _ q hr hq (.inl ⟨l, rfl⟩)
          | shutdown => exact .shutdown (core s) _ q hr hq
          | request id =>
            -- a timeout or a reply; the last timeout allowed, or a peer that closes on the
            -- request, ends the session
            simp only []
            split <;> split
            · exact .answerLost (core s) b id _ q hb hq
            · exact .answer (core s) _ id _ q hr hq (by simp [isSession])
            · exact .answerLost (core s) b id _ q hb hq
            · exact .answer (core s) _ id _ q hr hq (by simp [isSession])

/-- `Q` holds of a result of `advance`, `stop` or `runStops` -/
def At (Q : Core → Pos → Prop) (r : S × Pos) : Prop := Q (core r.1) r.2

/-- invariant principle: `P` holds at every iteration, `Q` at the blocking point -/
theorem advance_eff {P : Phase → Core → Prop} {Q : Core → Pos → Prop}
    (hidle : ∀ ph c, P ph c → Q c (.idle ph))
    (hstep : ∀ ph c nx c', Eff ph c nx c' → P ph c → nx.sat P Q c')
    (fuel : Nat) (ph : Phase) (s : S) (h : P ph (core s)) : At Q (advance fuel ph s) := by
  induction fuel generalizing ph s with
  | zero => exact hidle ph _ h
  | succ fuel ih =>
    have h1 := hstep ph _ _ _ (step_eff ph s) h
    rw [advance_succ]
    cases hr : step ph s with
    | cont ph' s' => rw [hr] at h1; exact ih ph' s' h1
    | halt s' pos => rw [hr] at h1; exact h1

theorem Reads.ne_finished {ph c} (h : Reads ph c) : ph ≠ .finished := by
  rintro rfl; exact h

/-- a session phase never carries a behaviour that fails the attempt -/
def sessOk : Phase → Bool
  | .session b | .sessionStart b => !b.fails
  | _ => true

/-- iterations needed beyond one per queued command -/
def need : Phase → Nat
  | .sessionStart _ | .failFor => 2
  | _ => 1

theorem one_le_need (ph : Phase) : 1 ≤ need ph := by cases ph <;> simp [need]

theorem need_le (ph : Phase) : need ph ≤ 2 := by cases ph <;> simp [need]

/-- the fuel `stop` supplies is enough -/
theorem fuelFor_ge (s : S) (ph : Phase) : s.queue.length + need ph ≤ fuelFor s := by
  have := need_le ph
  unfold fuelFor
  omega

/-- what holds wherever the task blocks, given `sessOk` at the start: the task sleeps only on an
    empty queue -/
def Pos.ok (c : Core) : Pos → Prop
  | .gate _ next => sessOk next = true
  | .idle ph => sessOk ph = true ∧ c.queue = []
  | .done => True

def Ok (Q : Core → Pos → Prop) (c : Core) (pos : Pos) : Prop := Pos.ok c pos ∧ Q c pos

/-- every continuing effect consumes a command or moves to a phase that needs fewer iterations -/
theorem Eff.fuel {ph c nx c'} (h : Eff ph c nx c') (hs : sessOk ph = true) :
    nx.sat (fun ph' c' => sessOk ph' = true ∧ c'.queue.length + need ph' + 1 ≤ c.queue.length + need ph)
      Pos.ok c' := by
  cases h with
  | sleep _ _ _ _ _ hq => exact ⟨hs, hq⟩
  | stuck _ _ hb => simp [sessOk, hb] at hs
  | connected _ _ _ hb => simp [Next.sat, Pos.ok, sessOk, hb]
  | timer | begin => simp_all [Next.sat, sessOk, need]
  | disable _ _ _ _ _ hq | skip _ _ _ _ _ hq | answer _ _ _ _ _ _ hq =>
    -- one command less; `afterDisable` needs no more iterations than any phase
    have := one_le_need ph
    simp_all [Next.sat, show sessOk .afterDisable = true from rfl, show need .afterDisable = 1 from rfl]
    try omega
  | enable _ _ _ hq => simp_all [Next.sat]; omega
  | finish => trivial
  | _ => exact rfl

/-- invariant principle where the fuel suffices, on states: the fuel is not exhausted, so `Q`
    holds where the task blocks of its own accord -/
theorem advance_sat_fuel {P : Phase → S → Prop} {Q : S → Pos → Prop}
    (hstep : ∀ ph s, P ph s → (step ph s).sat P Q) :
    ∀ (fuel : Nat) (ph : Phase) (s : S), P ph s → sessOk ph = true →
      s.queue.length + need ph ≤ fuel →
      Pos.ok (core (advance fuel ph s).1) (advance fuel ph s).2 ∧
        Q (advance fuel ph s).1 (advance fuel ph s).2 := by
  intro fuel
  induction fuel with
  | zero => intro ph s _ _ hf; have := one_le_need ph; omega
  | succ fuel ih =>
    intro ph s hp hs hf
    have h1 := hstep ph s hp
    have h2 := (step_eff ph s).fuel hs
    rw [advance_succ]
    cases hr : step ph s with
    | cont ph' s' =>
      rw [hr] at h1 h2
      exact ih ph' s' h1 h2.1 (by have := h2.2; simp only [Res.state, core] at this; omega)
    | halt s' pos => rw [hr] at h1 h2; exact ⟨h2, h1⟩

theorem advance_eff_fuel {P : Phase → Core → Prop} {Q : Core → Pos → Prop}
    (hstep : ∀ ph c nx c', Eff ph c nx c' → P ph c → nx.sat P Q c') (fuel : Nat) (ph : Phase)
    (s : S) (hp : P ph (core s)) (hs : sessOk ph = true) (hf : s.queue.length + need ph ≤ fuel) :
    At (Ok Q) (advance fuel ph s) :=
  advance_sat_fuel (P := fun ph s => P ph (core s)) (Q := fun s pos => Q (core s) pos)
    (fun ph s hp => by
      have := hstep _ _ _ _ (step_eff ph s) hp
      cases hr : step ph s <;> rw [hr] at this <;> exact this)
    fuel ph s hp hs hf

end Rodbus.Life
