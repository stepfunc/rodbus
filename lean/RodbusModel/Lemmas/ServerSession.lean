import RodbusModel.Model.Session
import RodbusModel.Lemmas.ServerServe
/-
  A server session (`runSession`, Model/Session.lean) is the frame-level fold `runFrames` over the
  frames that the reader delivered before its first framing error, and nothing else:
  `runSession_runFrames`, and `runSessionW_runFrames` for a transport whose write fails.  What a
  session writes, calls and ends with (C01Session, C01Write, C02Session, C07) is read off these two
  equations (C02Session also uses the frame-level bridge `handleEvents_eq_runFrames` directly); the
  statements about the event stream itself unfold `runSession` and use the `cutScript` facts
  (C01Stream `cutScript_data`, C20 `cutScript_filter`).
  Nothing in Model/ or Spec/ depends on the definitions.
-/
namespace Rodbus

def framesBeforeError : List Event → List Frame
  | [] => []
  | .err _ :: _ => []
  | .frame f :: rest => f :: framesBeforeError rest

def firstError : List Event → Option FrameErr
  | [] => none
  | .err e :: _ => some e
  | .frame _ :: rest => firstError rest

/-- how a session over these events ends: with the first framing error, otherwise as the
    transport script says -/
def endOf (k : EndKind) (evs : List Event) : EndKind :=
  match firstError evs with
  | some e => .badFrame e
  | none => k

theorem framesBeforeError_append (pre : List Frame) (rest : List Event) :
    framesBeforeError (pre.map Event.frame ++ rest) = pre ++ framesBeforeError rest := by
  induction pre with
  | nil => rfl
  | cons f fs ih => simp [framesBeforeError, ih]

theorem firstError_append (pre : List Frame) (rest : List Event) :
    firstError (pre.map Event.frame ++ rest) = firstError rest := by
  induction pre with
  | nil => rfl
  | cons f fs ih => simp [firstError, ih]

theorem framesBeforeError_err (pre : List Frame) (e : FrameErr) (post : List Event) :
    framesBeforeError (pre.map Event.frame ++ Event.err e :: post) = pre := by
  rw [framesBeforeError_append]; exact List.append_nil pre

theorem endOf_err (k : EndKind) (pre : List Frame) (e : FrameErr) (post : List Event) :
    endOf k (pre.map Event.frame ++ Event.err e :: post) = .badFrame e := by
  unfold endOf; rw [firstError_append]; rfl

theorem events_split (evs : List Event) :
    evs = (framesBeforeError evs).map Event.frame ∧ firstError evs = none
    ∨ ∃ e post, evs = (framesBeforeError evs).map Event.frame ++ Event.err e :: post
        ∧ firstError evs = some e := by
  induction evs with
  | nil => left; exact ⟨rfl, rfl⟩
  | cons ev rest ih =>
    cases ev with
    | err e => right; exact ⟨e, rest, rfl, rfl⟩
    | frame f =>
      rcases ih with ⟨h1, h2⟩ | ⟨e, post, h1, h2⟩
      · left; exact ⟨by simp only [framesBeforeError, List.map_cons]; rw [← h1], h2⟩
      · right
        exact ⟨e, post, by simp only [framesBeforeError, List.map_cons, List.cons_append]; rw [← h1],
          h2⟩

theorem mem_framesBeforeError_iff (evs : List Event) (f : Frame) :
    f ∈ framesBeforeError evs ↔
      ∃ (pre : List Frame) (post : List Event),
        evs = pre.map Event.frame ++ Event.frame f :: post := by
  constructor
  · intro h
    obtain ⟨l₁, l₂, hl⟩ := List.append_of_mem h
    have ⟨tail, ht⟩ : ∃ tail, evs = (framesBeforeError evs).map Event.frame ++ tail := by
      rcases events_split evs with ⟨h1, _⟩ | ⟨e, post, h1, _⟩
      · exact ⟨[], by rw [List.append_nil]; exact h1⟩
      · exact ⟨_, h1⟩
    exact ⟨l₁, l₂.map Event.frame ++ tail, ht.trans (by rw [hl]; simp)⟩
  · rintro ⟨pre, post, rfl⟩
    rw [framesBeforeError_append]
    simp [framesBeforeError]

theorem firstError_mem {evs : List Event} {e : FrameErr} (h : firstError evs = some e) :
    Event.err e ∈ evs := by
  rcases events_split evs with ⟨_, h2⟩ | ⟨e', post, h1, h2⟩
  · rw [h] at h2; cases h2
  · rw [h] at h2; cases h2; rw [h1]; simp

/-- the session equation on an arbitrary event list; `runSession_runFrames` is its instance at the
    events of the reader -/
theorem handleEvents_eq_runFrames {σ : Type} (fr : Framing) (cfg : ServerCfg σ) (k : EndKind)
    (hs : List (Nat × σ)) (evs : List Event) :
    handleEvents fr cfg k hs evs =
      ⟨((runFrames cfg hs (framesBeforeError evs)).1.map fun p => frameOut fr p.1 p.2).flatten,
       (runFrames cfg hs (framesBeforeError evs)).2.1,
       (runFrames cfg hs (framesBeforeError evs)).2.2,
       endOf k evs⟩ := by
  induction evs generalizing hs with
  | nil => rfl
  | cons ev rest ih =>
    cases ev with
    | err e => rfl
    | frame f =>
      simp only [handleEvents, framesBeforeError, runFrames, endOf, firstError]
      rw [ih]
      cases (handleFrame cfg hs f).reply <;> simp [endOf]

theorem endOf_cases (k : EndKind) (evs : List Event) :
    endOf k evs = k ∨ ∃ e, Event.err e ∈ evs ∧ endOf k evs = .badFrame e := by
  unfold endOf
  cases h : firstError evs with
  | none => exact .inl rfl
  | some e => exact .inr ⟨e, firstError_mem h, rfl⟩

theorem cutScript_data (chunks : List Bytes) (tail : List SessStep) :
    cutScript (chunks.map SessStep.data ++ tail) = (chunks ++ (cutScript tail).1, (cutScript tail).2) := by
  induction chunks with
  | nil => simp
  | cons c cs ih => simp only [List.map_cons, List.cons_append, cutScript]; rw [ih]

/-- `cutScript` skips the level changes: a filter that removes nothing else changes nothing -/
theorem cutScript_filter (p : SessStep → Bool) (hp : ∀ s, p s = false → ∃ l, s = .setDecode l)
    (script : List SessStep) : cutScript (script.filter p) = cutScript script := by
  induction script with
  | nil => rfl
  | cons s rest ih =>
    rw [List.filter_cons]
    split
    · cases s <;> simp only [cutScript, ih]
    · obtain ⟨l, rfl⟩ := hp s (by simpa using ‹¬ p s = true›)
      exact ih

theorem cutScript_snd_ne_badFrame (script : List SessStep) (e : FrameErr) :
    (cutScript script).2 ≠ .badFrame e := by
  induction script with
  | nil => simp [cutScript]
  | cons s rest ih => cases s <;> simp [cutScript] <;> exact ih

-- `sessionFrames` stands under `C01` because the statements of Props/C01Session, C01Write and
-- C02Session name it so
namespace C01

/-- the frames a session handles: those the reader delivers before its first framing error -/
def sessionFrames (fr : Framing) (script : List SessStep) : List Frame :=
  framesBeforeError (readerRun fr (cutScript script).1)

end C01

/-- The equation into a session: handler calls and final states are those of `runFrames` over the
    frames the reader delivers before its first framing error, the bytes written are the framed
    replies to these frames in order, and the session ends with that framing error if there is
    one, otherwise as the script says (`cutScript`).  Neither the decode level nor the level
    changes of the script occur on the right. -/
theorem runSession_runFrames {σ : Type} (fr : Framing) (cfg : ServerCfg σ) (l : DecodeLevel)
    (hs : List (Nat × σ)) (script : List SessStep) :
    runSession fr cfg l hs script =
      ⟨((runFrames cfg hs (C01.sessionFrames fr script)).1.map fun p => frameOut fr p.1 p.2).flatten,
       (runFrames cfg hs (C01.sessionFrames fr script)).2.1,
       (runFrames cfg hs (C01.sessionFrames fr script)).2.2,
       endOf (cutScript script).2 (readerRun fr (cutScript script).1)⟩ :=
  handleEvents_eq_runFrames fr cfg _ hs _

-- `handledW` and what follows stand under `C01W` because the statements of Props/C01Write and
-- C17Write name them so
namespace C01W

/-- the frames a session handles when the transport accepts `n` reply writes and fails the next
    one, and whether the failing write was reached: the frame whose reply is lost is the last one
    handled, and a frame that is not answered uses up no write -/
def handledW {σ : Type} (cfg : ServerCfg σ) : Nat → List (Nat × σ) → List Frame → List Frame × Bool
  | _, _, [] => ([], false)
  | n, hs, f :: fs =>
    let o := handleFrame cfg hs f
    match o.reply, n with
    | none, n => let r := handledW cfg n o.states fs; (f :: r.1, r.2)
    | some _, 0 => ([f], true)
    | some _, n + 1 => let r := handledW cfg n o.states fs; (f :: r.1, r.2)

def endW (failed : Bool) (k : EndKind) : EndW := if failed then .writeErr else .kind k

/-- a frame that is not answered uses up no write of the transport: it is handled and the fault
    position stays where it was -/
theorem unanswered_keeps_budget {σ : Type} (cfg : ServerCfg σ) (n : Nat) (hs : List (Nat × σ))
    (f : Frame) (fs : List Frame) (h : (handleFrame cfg hs f).reply = none) :
    handledW cfg n hs (f :: fs)
      = (f :: (handledW cfg n (handleFrame cfg hs f).states fs).1,
         (handledW cfg n (handleFrame cfg hs f).states fs).2) := by
  simp only [handledW, h]

/-- all there is to know about `handledW`: the handled frames are a prefix; if the failing write is
    reached they produced exactly `n + 1` replies (`n` written, one lost), otherwise they are all
    the frames and these produce at most `n` replies -/
theorem handledW_spec {σ : Type} (cfg : ServerCfg σ) (n : Nat) (hs : List (Nat × σ))
    (fs : List Frame) :
    (handledW cfg n hs fs).1 <+: fs ∧
      if (handledW cfg n hs fs).2 then (runFrames cfg hs (handledW cfg n hs fs).1).1.length = n + 1
      else (handledW cfg n hs fs).1 = fs ∧ (runFrames cfg hs fs).1.length ≤ n := by
  induction fs generalizing hs n with
  | nil => simp [handledW, runFrames]
  | cons f fs ih =>
    rcases hr : (handleFrame cfg hs f).reply with _ | p
    · simpa [handledW, runFrames, hr] using ih n (handleFrame cfg hs f).states
    · cases n with
      | zero => simp [handledW, runFrames, hr]
      | succ m => simpa [handledW, runFrames, hr] using ih m (handleFrame cfg hs f).states

theorem handled_take {σ : Type} (cfg : ServerCfg σ) (n : Nat) (hs : List (Nat × σ))
    (fs : List Frame) :
    (runFrames cfg hs (handledW cfg n hs fs).1).1.take n = (runFrames cfg hs fs).1.take n := by
  obtain ⟨⟨post, hp⟩, h⟩ := handledW_spec cfg n hs fs
  split at h
  · conv => rhs; rw [← hp, runFrames_append]
    rw [List.take_append_of_le_length (by omega)]
  · rw [h.1]

theorem failed_iff {σ : Type} (cfg : ServerCfg σ) (n : Nat) (hs : List (Nat × σ))
    (fs : List Frame) : (handledW cfg n hs fs).2 = true ↔ n < (runFrames cfg hs fs).1.length := by
  obtain ⟨⟨post, hp⟩, h⟩ := handledW_spec cfg n hs fs
  split at h
  · rename_i hb
    have := congrArg (fun l => (runFrames cfg hs l).1.length) hp
    simp only [runFrames_append, List.length_append] at this
    simp only [hb, true_iff]; omega
  · rename_i hb; simp only [hb, false_iff, Bool.false_eq_true]; omega

/-- `handleEventsW` is `runFrames` over the handled prefix; its first `n` replies are on the wire
    (when the failing write is reached there is one more, the lost one) -/
theorem handleEventsW_eq_runFrames {σ : Type} (fr : Framing) (cfg : ServerCfg σ) (k : EndKind)
    (n : Nat) (hs : List (Nat × σ)) (evs : List Event) :
    handleEventsW fr cfg k n hs evs =
      ⟨(((runFrames cfg hs (handledW cfg n hs (framesBeforeError evs)).1).1.take n).map
          fun p => frameOut fr p.1 p.2).flatten,
       (runFrames cfg hs (handledW cfg n hs (framesBeforeError evs)).1).2.1,
       (runFrames cfg hs (handledW cfg n hs (framesBeforeError evs)).1).2.2,
       endW (handledW cfg n hs (framesBeforeError evs)).2 (endOf k evs)⟩ := by
  induction evs generalizing hs n with
  | nil => cases n <;> rfl
  | cons ev rest ih =>
    cases ev with
    | err e => cases n <;> rfl
    | frame f =>
      rcases hr : (handleFrame cfg hs f).reply with _ | p
      · simp [handleEventsW, framesBeforeError, handledW, hr, runFrames, ih, endOf, firstError]
      · cases n with
        | zero => simp [handleEventsW, framesBeforeError, handledW, runFrames, hr, endW]
        | succ m =>
          simp [handleEventsW, framesBeforeError, handledW, hr, runFrames, ih, endOf, firstError]

def sessionFramesW {σ : Type} (fr : Framing) (cfg : ServerCfg σ) (n : Nat) (hs : List (Nat × σ))
    (script : List SessStep) : List Frame :=
  (handledW cfg n hs (C01.sessionFrames fr script)).1

def reachesFault {σ : Type} (fr : Framing) (cfg : ServerCfg σ) (n : Nat) (hs : List (Nat × σ))
    (script : List SessStep) : Bool :=
  (handledW cfg n hs (C01.sessionFrames fr script)).2

end C01W

theorem runSessionW_runFrames {σ : Type} (fr : Framing) (cfg : ServerCfg σ) (l : DecodeLevel)
    (n : Nat) (hs : List (Nat × σ)) (script : List SessStep) :
    runSessionW fr cfg l n hs script =
      ⟨(((runFrames cfg hs (C01W.sessionFramesW fr cfg n hs script)).1.take n).map
          fun p => frameOut fr p.1 p.2).flatten,
       (runFrames cfg hs (C01W.sessionFramesW fr cfg n hs script)).2.1,
       (runFrames cfg hs (C01W.sessionFramesW fr cfg n hs script)).2.2,
       C01W.endW (C01W.reachesFault fr cfg n hs script)
         (endOf (cutScript script).2 (readerRun fr (cutScript script).1))⟩ :=
  C01W.handleEventsW_eq_runFrames fr cfg _ n hs _

end Rodbus
