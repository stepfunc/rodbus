import RodbusModel.Lemmas.LifecycleInv
import RodbusModel.Lemmas.Retry
/-
  The run invariant behind C14 for all scripts (`delayInv`): the strategy object of the task is the
  closed form `Retry.closed mn mx k` for the counter `k` that the checker `Spec.LifeObs.conforms`
  keeps while it reads the announced states.
-/
namespace Rodbus.C14Life
open Rodbus.Life Rodbus.Spec.Life Rodbus.Spec.LifeObs Rodbus.Retry

theorem conforms_append (mn mx : Nat) (l r : List St) (k : Nat) :
    conforms mn mx k (l ++ r) = (conforms mn mx k l && conforms mn mx (counter k l) r) := by
  induction l generalizing k with
  | nil => simp [conforms, counter]
  | cons st l ih => simp [conforms, counter, ih, Bool.and_assoc]

theorem counter_append (l r : List St) (k : Nat) :
    counter k (l ++ r) = counter (counter k l) r := by
  induction l generalizing k with
  | nil => rfl
  | cons st l ih => simp [counter, ih]

/-- at an iteration of the task: the strategy object is the closed form for `k`, the value of the
    checker's counter after the state announced last; right after `Connected` (before the reset
    at the start of the session) the counter is 0 and the object is about to be reset -/
def DelayPhase (mn mx k : Nat) (ph : Phase) (c : Core) : Prop :=
  match ph with
  | .sessionStart _ => k = 0 ∧ ∃ j, c.retry = closed mn mx j
  | _ => c.retry = closed mn mx k

/-- at a blocking point (`k`: the counter after the states logged so far): the state about to be
    announced passes the check, and the task continues in a phase that fits the counter after it -/
def DelayPos (mn mx k : Nat) (c : Core) : Pos → Prop
  | .gate st next => stOk mn mx k st = true ∧ DelayPhase mn mx (count k st) next c
  | .idle ph => DelayPhase mn mx k ph c
  | .done => True

theorem DelayPhase.of_reads {mn mx k ph c} (hr : Reads ph c) (h : DelayPhase mn mx k ph c) :
    c.retry = closed mn mx k := by
  cases ph <;> first | exact h | exact False.elim hr

/-- three effects touch the strategy or announce a delay: a failed attempt, the start of a
    session, the loss of the connection -/
theorem _root_.Rodbus.Life.Eff.delay {mn mx k ph c nx c'} (hmx : mx ≤ DURATION_MAX) (h : Eff ph c nx c')
    (hd : DelayPhase mn mx k ph c) : nx.sat (DelayPhase mn mx k) (DelayPos mn mx k) c' := by
  cases h with
  | begin => obtain ⟨rfl, j, hj⟩ := hd; exact hj ▸ reset_closed mn mx j
  | failed =>
    rw [show c.retry = _ from hd, afterFailedConnect_closed hmx]
    exact ⟨by simp [stOk, Spec.LifeObs.delay], rfl⟩
  | connected => exact ⟨rfl, rfl, k, hd⟩
  | lost _ _ hb | answerLost _ _ _ _ _ hb =>
    have hd : c.retry = _ := DelayPhase.of_reads (ph := .session _) hb hd
    exact ⟨by simp [stOk, hd], hd⟩
  | orphaned _ _ hr | shutdown _ _ _ hr | disable _ _ _ hr =>
    have := hd.of_reads hr
    simpa [Next.sat, DelayPhase, DelayPos, stOk, count] using this
  | finish => trivial
  | disabled | dial => exact ⟨rfl, hd⟩
  | skip | answer | sleep | timer | stuck | enable => exact hd

def DelayP (mn mx : Nat) (ph : Phase) (c : Core) : Prop :=
  conforms mn mx 0 (states c.log) = true ∧ DelayPhase mn mx (counter 0 (states c.log)) ph c

def DelayQ (mn mx : Nat) (c : Core) (pos : Pos) : Prop :=
  conforms mn mx 0 (states c.log) = true ∧ DelayPos mn mx (counter 0 (states c.log)) c pos

theorem delayInv {mn mx : Nat} (hmx : mx ≤ DURATION_MAX) : Inv (DelayP mn mx) (DelayQ mn mx) where
  eff h := fun ⟨hc, hd⟩ => by
    have hs := h.states
    exact Next.sat_imp (fun _ hp => ⟨hs ▸ hc, hs ▸ hp⟩) (fun _ hq => ⟨hs ▸ hc, hs ▸ hq⟩)
      (h.delay hmx hd)
  user h := fun ⟨hc, hd⟩ => by
    have hs := h.states
    obtain ⟨_, _, _, rfl, _⟩ := h
    exact ⟨hs ▸ hc, hs ▸ hd⟩
  gate := fun {c st next} ⟨hc, hok, hd⟩ => by
    unfold DelayP
    rw [Core.announce_states, conforms_append, counter_append]
    exact ⟨by simp [hc, conforms, hok], hd⟩
  idle := fun {c ph} ⟨hc, hd⟩ => by
    unfold DelayP
    rw [show states (c.log ++ [.idle]) = states c.log by simp]
    exact ⟨hc, hd⟩
  done := fun {c _} ⟨evs, _, he, hq, _⟩ ⟨hc, _⟩ => by
    subst he
    exact ⟨(states_append_quiet hq : states (c.log ++ evs) = _) ▸ hc, trivial⟩

end Rodbus.C14Life
