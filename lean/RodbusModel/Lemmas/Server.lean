import RodbusModel.Lemmas.Codec
import RodbusModel.Spec.Server
/-
  The main correspondence of the server, on which Props/C01, C02, C08, C17 rest: the cursor-style
  model is the declarative reference server of Spec/Server.lean, layer by layer — `parseRequest_eq`
  (`validBody` / `decode`), `getReply_eq_serve`, `broadcastAll_eq`, and `handleFrame_eq_respond`.
-/
namespace Rodbus
open Rodbus.Spec.Server

theorem packedByte_eq_packByte (val : Nat → Bool) (qty j : Nat) :
    packedByte val qty j
      = packByte ((List.range 8).map fun k => decide (8 * j + k < qty) && val (8 * j + k)) := by
  have key : ∀ (p : Nat → Bool) (n : Nat),
      (List.range n).foldl (fun acc k => acc + if p k then 2 ^ k else 0) 0
        = packByte ((List.range n).map p) := by
    intro p n
    induction n with
    | zero => rfl
    | succ n ih => simp [List.range_succ, ih, packByte_append]
  rw [← key]
  simp [packedByte]

/-- the bit-read reply payload for `n` values given by `val`: `packBits` (chunks of 8, LSB first,
    zero padded) is the byte-wise formula of the specification -/
theorem packBits_map_range (val : Nat → Bool) (n : Nat) :
    packBits ((List.range n).map val) = (List.range ((n + 7) / 8)).map (packedByte val n) := by
  apply List.ext_getElem
  · simp [packBits_length, numBytesForBits]
  · intro j h1 h2
    rw [List.getElem_map, List.getElem_range, packedByte_eq_packByte, List.getElem_eq_getD 0,
      packBits_getD]
    -- both bytes hold `val (8j + k)` at bit `k < 8` if `8j + k < n`, and 0 elsewhere
    apply packByte_ext; intro k
    rw [getD_take_drop]
    simp only [List.getD_eq_getElem?_getD, List.getElem?_map]
    by_cases hk : k < 8 <;> by_cases hn : 8 * j + k < n <;> simp [hk, hn]

theorem packRegs_map_range (val : Nat → Nat) (n : Nat) :
    packRegs ((List.range n).map val)
      = ((List.range n).map fun i => [val i / 256 % 256, val i % 256]).flatten := by
  simp [packRegs, u16be, List.map_map, Function.comp_def]

theorem firstFailure_zero {α : Type} (get : Nat → Except Nat α) (start : Nat) :
    firstFailure get start 0 = none := rfl

theorem firstFailure_eq_firstErr {α : Type} (get : Nat → Except Nat α) (start n : Nat) :
    firstFailure get start n = firstErr (fun i => errOf (get (start + i))) n := by
  unfold firstFailure firstErr
  congr 1; funext i
  show _ = (errOf (get (start + i))).map (i, ·)
  cases get (start + i) <;> rfl

theorem valOr_of_errOf_none {α : Type} (d : α) {x : Except Nat α} (h : errOf x = none) :
    x = .ok (valOr d x) := by
  cases x <;> simp_all [errOf, valOr]

/-- the getter loop over a range: it queries ascending addresses up to and including the first
    failure and yields that exception, or queries the whole range and yields all values -/
theorem readSeq_addresses {α : Type} (d : α) (get : Nat → Except Nat α) (r : Range) :
    readSeq get r.addresses =
      (queried get r.start r.count,
       match firstFailure get r.start r.count with
       | none => .ok ((List.range r.count).map fun i => valOr d (get (r.start + i)))
       | some (_, e) => .error e) := by
  have h := firstErr_spec (fun i => errOf (get (r.start + i))) r.count
  unfold Range.addresses queried
  rw [← firstFailure_eq_firstErr] at h
  cases hf : firstFailure get r.start r.count with
  | none =>
    rw [hf] at h
    have hv : ∀ a ∈ (List.range r.count).map (r.start + ·), get a = .ok (valOr d (get a)) := by
      intro a ha
      obtain ⟨i, hi, rfl⟩ := List.mem_map.1 ha
      exact valOr_of_errOf_none d (h i (List.mem_range.1 hi))
    rw [readSeq_of_ok hv, List.map_map]; rfl
  | some p => rw [hf] at h; rw [readSeq_range_of_error h.1 h.2.1 h.2.2]

theorem bitAt_eq_bitOf : bitAt = bitOf := by
  funext bs i; simp only [bitAt, bitOf]; rw [Bool.eq_iff_iff]; simp

theorem unpackRegs_eq_map (payload : Bytes) (n : Nat) (h : payload.length = 2 * n) :
    unpackRegs payload = (List.range n).map fun i => u16At payload (2 * i) :=
  unpackRegs_eq_range payload n h

theorem u16At_zero (a b : Nat) (t : Bytes) : u16At (a :: b :: t) 0 = be16 a b := rfl
theorem u16At_two (a b c d : Nat) (t : Bytes) : u16At (a :: b :: c :: d :: t) 2 = be16 c d := rfl

theorem u16At_drop (body : Bytes) (n k : Nat) : u16At (body.drop n) k = u16At body (n + k) := by
  simp [u16At, List.getD_eq_getElem?_getD, List.getElem?_drop, Nat.add_assoc]

theorem u16At_lt {bs : Bytes} (h : Bytes.WF bs) (i : Nat) : u16At bs i < 65536 :=
  be16_lt (h.getD_lt i) (h.getD_lt (i + 1))

/-- the shape the six ranged branches of `Request::parse` share: range, limit check, then a
    continuation on the validated range and the rest of the cursor -/
def parseRanged {α : Type} (limit : Nat) (k : Range → Bytes → Option α) (body : Bytes) : Option α :=
  match parseRange body with
  | some (r, rest) =>
    match r.limitedCount limit with
    | .error _ => none
    | .ok r => k r rest
  | none => none

/-- range and limit check by position; no well-formedness of the bytes is needed because the limit
    fits a u16 (`AddressRange::try_from` alone would accept start 0 with a count beyond 65536) -/
theorem parseRanged_eq {α : Type} {limit : Nat} (hl : limit ≤ 65536) (k : Range → Bytes → Option α)
    (body : Bytes) :
    parseRanged limit k body =
      if 4 ≤ body.length ∧ 1 ≤ u16At body 2 ∧ u16At body 2 ≤ limit
          ∧ u16At body 0 + u16At body 2 ≤ 65536
      then k ⟨u16At body 0, u16At body 2⟩ (body.drop 4) else none := by
  rcases body with _ | ⟨a, _ | ⟨b, _ | ⟨c, _ | ⟨d, rest⟩⟩⟩⟩ <;> try rfl
  simp only [parseRanged, parseRange, u16At_zero, u16At_two, List.drop_succ_cons, List.drop_zero,
    List.length_cons]
  have hlim := fun r => Range.tryFrom_limited (s := be16 a b) (c := be16 c d) hl r
  by_cases h : 1 ≤ be16 c d ∧ be16 c d ≤ limit ∧ be16 a b + be16 c d ≤ 65536
  · obtain ⟨r0, h1, h2⟩ := (hlim _).2 ⟨h.1, h.2.1, h.2.2, rfl⟩
    rw [if_pos ⟨by omega, h⟩, h1]; simp only [h2]
  · rw [if_neg fun h' => h h'.2]
    cases h1 : Range.tryFrom (be16 a b) (be16 c d) with
    | error e => rfl
    | ok r0 =>
      cases h2 : r0.limitedCount limit with
      | error e => simp only [h2]
      | ok r => have := (hlim r).1 ⟨r0, h1, h2⟩; exact absurd ⟨this.1, this.2.1, this.2.2.1⟩ h

/-- the four reads: a range within the limit and nothing after it -/
theorem parseReadRange_eq {limit : Nat} (hl : limit ≤ 65536) (body : Bytes) :
    parseReadRange limit body =
      if body.length = 4 ∧ 1 ≤ u16At body 2 ∧ u16At body 2 ≤ limit
          ∧ u16At body 0 + u16At body 2 ≤ 65536
      then some ⟨u16At body 0, u16At body 2⟩ else none := by
  have : parseReadRange limit body
      = parseRanged limit (fun r rest => if rest = [] then some r else none) body := by
    unfold parseReadRange parseRanged
    cases parseRange body with
    | none => rfl
    | some p =>
      obtain ⟨r, rest⟩ := p
      simp only []
      cases r.limitedCount limit <;> rfl
  rw [this, parseRanged_eq hl]
  simp only [List.drop_eq_nil_iff]
  by_cases h4 : body.length = 4
  · simp [h4]
  · by_cases h5 : body.length ≤ 4
    · rw [if_neg (by omega), if_neg (by omega)]
    · simp [h4, h5]

/-- the cursor after the range of a multiple write holds one byte that is skipped and then exactly
    `n` bytes: by length -/
theorem drop4_payload {α : Type} (body : Bytes) (n : Nat) (g : Bytes → α) :
    (match body.drop 4 with
      | _ :: payload => if payload.length = n then some (g payload) else none
      | [] => none) = if body.length = 5 + n then some (g (body.drop 5)) else none := by
  rcases body with _ | ⟨a, _ | ⟨b, _ | ⟨c, _ | ⟨d, _ | ⟨e, t⟩⟩⟩⟩⟩
  case cons.cons.cons.cons.cons =>
    simp only [List.drop_succ_cons, List.drop_zero, List.length_cons]
    by_cases h : t.length = n
    · rw [if_pos h, if_pos (by omega)]
    · rw [if_neg h, if_neg (by omega)]
  all_goals exact (if_neg (by simp only [List.length_cons, List.length_nil]; omega)).symm

/-- the two multiple writes: after the range, a byte count that is skipped and a payload of exactly
    `len count` bytes -/
theorem parseWM_eq {limit : Nat} (hl : limit ≤ 65536) (len : Nat → Nat) (f : Range → Bytes → Request)
    (body : Bytes) :
    parseRanged limit (fun r rest => match rest with
      | _ :: payload => if payload.length = len r.count then some (f r payload) else none
      | [] => none) body =
      if 1 ≤ u16At body 2 ∧ u16At body 2 ≤ limit ∧ u16At body 0 + u16At body 2 ≤ 65536
          ∧ body.length = 5 + len (u16At body 2)
      then some (f ⟨u16At body 0, u16At body 2⟩ (body.drop 5)) else none := by
  rw [parseRanged_eq hl]
  by_cases hn : body.length = 5 + len (u16At body 2)
  · by_cases hc : 1 ≤ u16At body 2 ∧ u16At body 2 ≤ limit ∧ u16At body 0 + u16At body 2 ≤ 65536
    · rw [if_pos ⟨by omega, hc⟩, if_pos ⟨hc.1, hc.2.1, hc.2.2, hn⟩]
      exact (drop4_payload body _ _).trans (if_pos hn)
    · rw [if_neg fun h => hc h.2, if_neg fun h => hc ⟨h.1, h.2.1, h.2.2.1⟩]
  · split
    · exact ((drop4_payload body _ _).trans (if_neg hn)).trans (if_neg fun h => hn h.2.2.2).symm
    · exact (if_neg fun h => hn h.2.2.2).symm

/-- `Request::parse` accepts exactly the valid bodies and yields the request they denote -/
theorem parseRequest_eq (fc : Fc) (body : Bytes) :
    parseRequest fc body = if validBody fc body then some (decode fc body) else none := by
  cases fc with
  | writeSingleCoil =>
    rcases body with _ | ⟨a, _ | ⟨b, _ | ⟨c, _ | ⟨d, _ | ⟨e, t⟩⟩⟩⟩⟩ <;> try rfl
    simp only [parseRequest, validBody, decode, u16At_zero, u16At_two, coilFromU16, COIL_ON, COIL_OFF]
    by_cases h1 : be16 c d = 65280
    · simp [h1]
    · by_cases h2 : be16 c d = 0
      · simp [h2]
      · simp [h1, h2]
  | writeSingleRegister =>
    rcases body with _ | ⟨a, _ | ⟨b, _ | ⟨c, _ | ⟨d, _ | ⟨e, t⟩⟩⟩⟩⟩ <;> rfl
  | writeMultipleCoils =>
    show parseRanged 1968 (fun r rest => match rest with
      | _ :: payload => if payload.length = numBytesForBits r.count then
          some (Request.writeMultipleCoils r (unpackBits payload r.count)) else none
      | [] => none) body = _
    rw [parseWM_eq (by decide) numBytesForBits fun r p => .writeMultipleCoils r (unpackBits p r.count)]
    simp only [validBody, decode, Bool.and_eq_true, decide_eq_true_eq, beq_iff_eq,
      numBytesForBits, and_assoc, unpackBits, bitAt_eq_bitOf]
  | writeMultipleRegisters =>
    show parseRanged 123 (fun r rest => match rest with
      | _ :: payload => if payload.length = 2 * r.count then
          some (Request.writeMultipleRegisters r (unpackRegs payload)) else none
      | [] => none) body = _
    rw [parseWM_eq (by decide) (2 * ·) fun r p => .writeMultipleRegisters r (unpackRegs p)]
    simp only [validBody, decode, Bool.and_eq_true, decide_eq_true_eq, beq_iff_eq, and_assoc]
    by_cases h : 1 ≤ u16At body 2 ∧ u16At body 2 ≤ 123 ∧ u16At body 0 + u16At body 2 ≤ 65536
        ∧ body.length = 5 + 2 * u16At body 2
    · rw [if_pos h, if_pos h, unpackRegs_eq_map _ (u16At body 2) (by rw [List.length_drop]; omega)]
      simp only [u16At_drop]
    · rw [if_neg h, if_neg h]
  | _ =>
    simp only [parseRequest, MAX_READ_COILS_COUNT, MAX_READ_REGISTERS_COUNT,
      parseReadRange_eq (limit := 2000) (by decide), parseReadRange_eq (limit := 125) (by decide),
      validBody, decode, Bool.and_eq_true, decide_eq_true_eq, beq_iff_eq, and_assoc]
    split <;> rfl

theorem decode_fc (fc : Fc) (body : Bytes) : (decode fc body).fc = fc := by
  cases fc <;> rfl

theorem authCall_eq_authQuestion (req : Request) (unit : Nat) (role : String) :
    authCall req.fc unit req.authArg role = authQuestion req unit role := by
  cases req <;> rfl

/-- `Request::get_reply` does what the reference server prescribes for a served request -/
theorem getReply_eq_serve {σ : Type} (H : Handler σ) (u : Nat) (s : σ) (req : Request) :
    getReply H u s req = serve H u s req := by
  cases req with
  | readCoils r | readDiscreteInputs r =>
    simp only [getReply, serve, bitsReply, readSeq_addresses false, ← packBits_map_range]
    generalize firstFailure _ r.start r.count = ff
    cases ff <;> rfl
  | readHoldingRegisters r | readInputRegisters r =>
    simp only [getReply, serve, regsReply, readSeq_addresses 0, ← packRegs_map_range]
    generalize firstFailure _ r.start r.count = ff
    cases ff <;> rfl
  | writeSingleCoil i v =>
    simp only [getReply, serve]
    rcases H.writeSingleCoil s i v with ⟨_ | _, s'⟩ <;> cases v <;> rfl
  | writeSingleRegister i v =>
    simp only [getReply, serve]
    rcases H.writeSingleRegister s i v with ⟨_ | _, s'⟩ <;> rfl
  | writeMultipleCoils r vals =>
    simp only [getReply, serve]
    rcases H.writeMultipleCoils s r (indexed r.start vals) with ⟨_ | _, s'⟩ <;> rfl
  | writeMultipleRegisters r vals =>
    simp only [getReply, serve]
    rcases H.writeMultipleRegisters s r (indexed r.start vals) with ⟨_ | _, s'⟩ <;> rfl

/-- `BroadcastRequest::execute`: a write is executed as it is served, its reply dropped; a read
    (`into_broadcast_request` = `None`) is not executed -/
theorem executeBroadcast_eq {σ : Type} (H : Handler σ) (u : Nat) (s : σ) (req : Request) :
    executeBroadcast H u s req =
      if isWrite req then some ((serve H u s req).2.1, (serve H u s req).2.2) else none := by
  cases req <;> rfl

/-- `for handler in handlers { request.execute(handler) }`: a write is applied to every unit,
    a read to none -/
theorem broadcastAll_eq {σ : Type} (H : Handler σ) (req : Request) (hs : List (Nat × σ)) :
    broadcastAll H req hs = if isWrite req then applyToAll H req hs else ([], hs) := by
  induction hs with
  | nil => cases isWrite req <;> rfl
  | cons p rest ih =>
    simp only [broadcastAll, executeBroadcast_eq, ih, applyToAll]
    cases isWrite req <;> rfl

/-- THE correspondence: the cursor-style model of `SessionTask::handle_frame` is the reference
    server -/
theorem handleFrame_eq_respond {σ : Type} (cfg : ServerCfg σ) (hs : List (Nat × σ)) (f : Frame) :
    handleFrame cfg hs f = respond cfg hs f := by
  unfold handleFrame respond
  cases hp : f.pdu with
  | nil => simp
  | cons b body =>
    simp only [List.isEmpty_cons, List.headD_cons, List.drop_succ_cons, List.drop_zero]
    cases hfc : Fc.ofByte b with
    | none =>
      cases cfg.rtu && f.dest == 0 <;> cases lookupUnit hs f.dest <;> simp [exceptionPdu]
    | some fc =>
      simp only [parseRequest_eq]
      cases hv : validBody fc body with
      | false =>
        cases cfg.rtu && f.dest == 0 <;> cases lookupUnit hs f.dest <;> simp [exceptionPdu]
      | true =>
        have hq : ∀ role, authCall fc f.dest (decode fc body).authArg role
            = authQuestion (decode fc body) f.dest role := fun role => by
          rw [← authCall_eq_authQuestion, decode_fc]
        simp only [if_true, Bool.not_true, decode_fc, hq, broadcastAll_eq, getReply_eq_serve]
        -- in the order of the decision: permitted?, broadcast?, then write? or configured?
        cases ha : cfg.auth with
        | none =>
          cases hb : (cfg.rtu && f.dest == 0)
          · cases lookupUnit hs f.dest <;> simp
          · cases hw : isWrite (decode fc body) <;> simp
        | some pr =>
          obtain ⟨P, role⟩ := pr
          cases hP : P fc f.dest (decode fc body).authArg role
          · cases hb : (cfg.rtu && f.dest == 0) <;> simp [exceptionPdu, hP]
          · cases hb : (cfg.rtu && f.dest == 0)
            · cases lookupUnit hs f.dest <;> simp [hP]
            · cases hw : isWrite (decode fc body) <;> simp [hP]

end Rodbus
