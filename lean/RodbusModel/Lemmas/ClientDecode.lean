import RodbusModel.Lemmas.ClientTick
/-
  C20 (client side): the decode level is carried but never consulted.  `erase z` forgets the `decode`
  field and (`z = true`) the levels carried by queued set-decode commands.  Every operation commutes
  with it, `f (erase z s) = erase z (f s)`; taking a set-decode command from the queue stores its
  level, so there only `erase z (f (erase z s) (eraseCmd z c)) = erase z (f s c)`.  Hence states that
  agree up to decode levels stay so (`*_congr`).  Last: a set-decode step at a state in which the
  task is blocked with an empty queue (`Quiescent`) changes only the stored level.
-/
namespace Rodbus.Client

def zeroD : Decode := ⟨0, 0, 0⟩

/-- forget the level a command carries (`z = true`), or nothing (`z = false`) -/
def eraseCmd (z : Bool) : Cmd → Cmd
  | .setDecode d => .setDecode (if z then zeroD else d)
  | c => c

/-- forget the level a script step carries (`z = true`), or nothing (`z = false`) -/
def eraseStep (z : Bool) : Step → Step
  | .setDecode d => .setDecode (if z then zeroD else d)
  | st => st

theorem eraseCmd_false (c : Cmd) : eraseCmd false c = c := by cases c <;> rfl

theorem eraseStep_false (st : Step) : eraseStep false st = st := by cases st <;> rfl

section
variable {σ : Type} {z : Bool}

/-- forget the `decode` field and, for `z = true`, also the levels carried by queued set-decode
    commands -/
def erase (z : Bool) (s : State σ) : State σ :=
  { s with decode := zeroD, queue := s.queue.map (eraseCmd z) }

@[simp] theorem eraseCmd_idem (c : Cmd) : eraseCmd z (eraseCmd z c) = eraseCmd z c := by
  cases c <;> cases z <;> rfl

/-- overwriting the `decode` field is invisible after `erase` -/
theorem erase_setDecode (s : State σ) (d : Decode) : erase z { s with decode := d } = erase z s := rfl

@[simp] theorem erase_idem (s : State σ) : (erase z) ((erase z) s) = (erase z) s := by
  simp [erase, List.map_map, Function.comp_def]

theorem weak_of_strong {a b : State σ} (h : a = erase z b) : erase z a = erase z b := by
  rw [h, erase_idem]

theorem congr_of_erase {α : Type} {g : State σ → α} (hg : ∀ s, g (erase z s) = g s) {a b : State σ}
    (h : erase z a = erase z b) : g a = g b := by
  rw [← hg a, ← hg b, h]

theorem erase_fields (s : State σ) :
    ((erase z) s).cap = s.cap ∧ ((erase z) s).maxTo = s.maxTo ∧ ((erase z) s).queue = s.queue.map (eraseCmd z)
      ∧ ((erase z) s).handles = s.handles ∧ ((erase z) s).enabled = s.enabled ∧ ((erase z) s).decode = zeroD
      ∧ ((erase z) s).tx = s.tx ∧ ((erase z) s).nto = s.nto ∧ ((erase z) s).pst = s.pst ∧ ((erase z) s).rb = s.rb
      ∧ ((erase z) s).pos = s.pos ∧ ((erase z) s).phases = s.phases ∧ ((erase z) s).mocks = s.mocks
      ∧ ((erase z) s).now = s.now ∧ ((erase z) s).alive = s.alive ∧ ((erase z) s).held = s.held
      ∧ ((erase z) s).coins = s.coins ∧ ((erase z) s).log = s.log ∧ ((erase z) s).accepted = s.accepted
      ∧ ((erase z) s).dequeued = s.dequeued ∧ ((erase z) s).sent = s.sent ∧ ((erase z) s).waited = s.waited :=
  ⟨rfl, rfl, rfl, rfl, rfl, rfl, rfl, rfl, rfl, rfl, rfl, rfl, rfl, rfl, rfl, rfl, rfl, rfl, rfl,
    rfl, rfl, rfl⟩

theorem eraseCmd_isReq (c : Cmd) : ((eraseCmd z) c).isReq = c.isReq := by cases c <;> rfl

theorem reqsOf_erase (q : List Cmd) : reqsOf (q.map (eraseCmd z)) = reqsOf q := by
  induction q with
  | nil => rfl
  | cons c q ih => cases c <;> simp [reqsOf, eraseCmd, ih]

theorem emit_erase (s : State σ) (e : LogEntry) : emit ((erase z) s) e = (erase z) (emit s e) := rfl

theorem complete_erase (s : State σ) (r : Req) (res : Res) :
    complete ((erase z) s) r res = (erase z) (complete s r res) := by
  unfold complete; rfl

theorem endPhase_erase (s : State σ) (k : EndKind) : endPhase ((erase z) s) k = (erase z) (endPhase s k) := by
  unfold endPhase; rfl

theorem accept_erase (s : State σ) (rid : Rid) : accept ((erase z) s) rid = (erase z) (accept s rid) := rfl

theorem enqueue_erase (s : State σ) (c : Cmd) :
    enqueue ((erase z) s) ((eraseCmd z) c) = (erase z) (enqueue s c) := by
  simp [erase, enqueue]

theorem closed_erase (s : State σ) : closed ((erase z) s) = closed s := rfl

theorem recvReady_erase (s : State σ) : recvReady ((erase z) s) = recvReady s := by
  simp only [recvReady, closed_erase, erase_fields, List.isEmpty_map]

theorem flip_erase (s : State σ) : flip (erase z s) = ((flip s).1, erase z (flip s).2) := by
  unfold flip
  simp only [erase_fields]
  cases s.coins <;> rfl

theorem getMock_erase (s : State σ) (m : Nat) : getMock ((erase z) s) m = getMock s m := rfl

theorem setMock_erase (s : State σ) (m : Nat) (k : Mock) :
    setMock ((erase z) s) m k = (erase z) (setMock s m k) := rfl

theorem isLatest_erase (s : State σ) (m : Nat) : isLatest ((erase z) s) m = isLatest s m := rfl

theorem pollReader_erase (F : Framing σ) (s : State σ) (m : Nat) :
    pollReader F ((erase z) s) m = ((pollReader F s m).1, (erase z) (pollReader F s m).2) := by
  rw [pollReader_frame F s (erase z s) m rfl rfl rfl]
  rfl

theorem nextTimer_erase (s : State σ) : nextTimer ((erase z) s) = nextTimer s := rfl

theorem moveClock_erase (s : State σ) (t : Nat) : moveClock ((erase z) s) t = (erase z) (moveClock s t) := rfl

theorem afterRequest_erase (s : State σ) (m : Nat) (res : Res) :
    afterRequest ((erase z) s) m res = (erase z) (afterRequest s m res) := by
  unfold afterRequest
  cases res.sessionEnd with
  | some k => rfl
  | none => simp only [apply_ite (erase z)]; rfl

theorem finish_erase (s : State σ) (m : Nat) (r : Req) (res : Res) :
    finish ((erase z) s) m r res = (erase z) (finish s m r res) := by
  unfold finish
  rw [complete_erase, afterRequest_erase]

theorem startRequest_erase (F : Framing σ) (s : State σ) (m : Nat) (r : Req) :
    startRequest F ((erase z) s) m r = (erase z) (startRequest F s m r) := by
  -- the frame is logged or not: one update of the log, so that every branch ends in a flat record
  have ite_emit : ∀ (b : Bool) (t : State σ) (e : LogEntry),
      (if b then emit t e else t) = { t with log := if b then e :: t.log else t.log } := by
    intro b t e; cases b <;> rfl
  unfold startRequest
  simp only [ite_emit]
  simp only [erase_fields, getMock, setMock, isLatest]
  split
  · rw [← finish_erase]; rfl
  · split
    · rw [← finish_erase]; rfl
    · by_cases hw : (s.mocks.getD m {}).wErr = true
      · simp only [hw, if_true]
        rw [← finish_erase]; rfl
      · simp only [hw]
        rfl

/-- (weak form: a set-decode command stores its level in the `decode` field) -/
theorem applySetting_erase (s : State σ) (c : Cmd) :
    erase z (applySetting ((erase z) s) ((eraseCmd z) c)) = (erase z) (applySetting s c) := by
  cases c with
  | setDecode d => exact erase_idem s
  | _ => exact weak_of_strong rfl

theorem applySetting_enabled (s : State σ) (c : Cmd) :
    (applySetting ((erase z) s) ((eraseCmd z) c)).enabled = (applySetting s c).enabled := by
  cases c <;> rfl

theorem endPhase_setDecode (s : State σ) (d : Decode) (k : EndKind) :
    erase z (endPhase { s with decode := d } k) = erase z (endPhase s k) := rfl

theorem waitCmd_erase (s : State σ) (c : Cmd) :
    erase z (waitCmd ((erase z) s) ((eraseCmd z) c)) = (erase z) (waitCmd s c) := by
  cases c with
  | req r => exact weak_of_strong (complete_erase s r .noConn)
  | shutdown => exact weak_of_strong (endPhase_erase s .shutdown)
  | _ => exact applySetting_erase s _

theorem endIfDisabled_congr {a b : State σ} (h : erase z a = erase z b) (he : a.enabled = b.enabled) :
    erase z (if a.enabled then a else endPhase a .disabled)
      = erase z (if b.enabled then b else endPhase b .disabled) := by
  rw [he, apply_ite (erase z), apply_ite (erase z), ← endPhase_erase, ← endPhase_erase, h]

theorem failCmd_erase (s : State σ) (c : Cmd) :
    erase z (failCmd ((erase z) s) ((eraseCmd z) c)) = (erase z) (failCmd s c) := by
  cases c with
  | req r => exact weak_of_strong (complete_erase s r .noConn)
  | shutdown => exact weak_of_strong (endPhase_erase s .shutdown)
  | _ => exact endIfDisabled_congr (applySetting_erase s _) (applySetting_enabled s _)

theorem runCmd_erase (F : Framing σ) (s : State σ) (m : Nat) (c : Cmd) :
    erase z (runCmd F ((erase z) s) m ((eraseCmd z) c)) = (erase z) (runCmd F s m c) := by
  cases h : c.isReq with
  | false =>
    rw [runCmd_eq_failCmd F s m h, runCmd_eq_failCmd F _ m ((eraseCmd_isReq c).trans h)]
    exact failCmd_erase s c
  | true =>
    cases c with
    | req r => exact weak_of_strong (startRequest_erase F s m r)
    | _ => cases h

/-- `rx.recv()` as `sessionRecv`, `tickWait` and `tickFail` spell it out: the head of the queue goes
    to `k`, a closed channel ends the phase, otherwise `o` -/
theorem recv_erase (s : State σ) (k : State σ → Cmd → State σ) (o o' : Option (State σ))
    (hk : ∀ t c, erase z (k (erase z t) (eraseCmd z c)) = erase z (k t c))
    (ho : o'.map (erase z) = o.map (erase z)) :
    (match (erase z s).queue with
      | c :: q => some (k { erase z s with queue := q } c)
      | [] => if closed (erase z s) then some (endPhase (erase z s) .shutdown) else o').map (erase z)
    = (match s.queue with
      | c :: q => some (k { s with queue := q } c)
      | [] => if closed s then some (endPhase s .shutdown) else o).map (erase z) := by
  -- by `rw`: `simp` with a `rfl` lemma leaves `closed (erase z s)` in the `Decidable` instance of the
  -- `if`, and `apply_ite` does not fire on it
  rw [closed_erase]
  simp only [erase_fields]
  cases s.queue with
  | nil =>
    simp only [List.map_nil, apply_ite (Option.map (erase z)), Option.map_some, endPhase_erase,
      erase_idem, ho]
  | cons c q => exact congrArg some (hk { s with queue := q } c)

theorem sessionRecv_erase (F : Framing σ) (s : State σ) (m : Nat) :
    (sessionRecv F ((erase z) s) m).map (erase z) = (sessionRecv F s m).map (erase z) :=
  recv_erase s (fun t c => runCmd F t m c) none none (fun t c => runCmd_erase F t m c) rfl

theorem idleReader_erase (s : State σ) (r : ReadRes) :
    idleReader ((erase z) s) r = (erase z) (idleReader s r) := by
  unfold idleReader
  cases r with
  | fail res => dsimp only; cases res.sessionEnd <;> rfl
  | _ => rfl

theorem inflightReader_erase (s : State σ) (m : Nat) (q : Req) (tx : Nat) (r : ReadRes) :
    inflightReader ((erase z) s) m q tx r = (erase z) (inflightReader s m q tx r) := by
  unfold inflightReader
  cases r <;> simp only [finish_erase, apply_ite (erase z)]

theorem map_eq_map_cases {α β : Type} {f : α → β} {o o' : Option α} (h : o.map f = o'.map f) :
    (o = none ∧ o' = none) ∨ ∃ a b, o = some a ∧ o' = some b ∧ f a = f b := by
  cases o <;> cases o' <;> simp_all

theorem tickIdle_erase (F : Framing σ) (s : State σ) (m : Nat) :
    (tickIdle F ((erase z) s) m).map (erase z) = (tickIdle F s m).map (erase z) := by
  rw [tickIdle_eq, tickIdle_eq, getMock_erase]
  simp only [pollReader_erase, flip_erase, recvReady_erase]
  cases (pollReader F s m).1 with
  | blocked =>
    rcases map_eq_map_cases (sessionRecv_erase (z := z) F (pollReader F s m).2 m) with
      ⟨h1, h2⟩ | ⟨a, b, h1, h2, h⟩ <;> rw [h1, h2]
    · simp only [apply_ite (Option.map (erase z)), Option.map_some, erase_idem]
    · exact congrArg some h
  | _ =>
    simp only [apply_ite (Option.map (erase z)), Option.map_some, idleReader_erase, erase_idem,
      sessionRecv_erase]

theorem tickInflight_erase (F : Framing σ) (s : State σ) (m : Nat) (q : Req) (tx dl : Nat) :
    (tickInflight F ((erase z) s) m q tx dl).map (erase z)
      = (tickInflight F s m q tx dl).map (erase z) := by
  rw [tickInflight_eq, tickInflight_eq, getMock_erase]
  simp only [pollReader_erase, flip_erase]
  cases (pollReader F s m).1 <;>
    simp only [apply_ite (Option.map (erase z)), Option.map_some, finish_erase,
      inflightReader_erase, erase_idem, erase_fields]

theorem tickWait_erase (s : State σ) :
    (tickWait ((erase z) s)).map (erase z) = (tickWait s).map (erase z) := by
  unfold tickWait
  rw [show (erase z s).enabled = s.enabled from rfl]
  by_cases he : s.enabled = true
  · rw [if_pos he, if_pos he]
    simp only [Option.map_some, endPhase_erase, erase_idem]
  · rw [if_neg he, if_neg he]
    exact recv_erase s waitCmd none none waitCmd_erase rfl

theorem erase_pos (s : State σ) (p : Pos) :
    { erase z s with pos := p } = erase z { s with pos := p } := rfl

theorem tickFail_erase (s : State σ) (dl : Nat) (b : Bool) :
    (tickFail ((erase z) s) dl b).map (erase z) = (tickFail s dl b).map (erase z) := by
  rw [tickFail_eq, tickFail_eq, show (erase z s).now = s.now from rfl]
  by_cases he : (decide (s.now ≥ dl) && !b) = true
  · rw [if_pos he, if_pos he]
    simp only [flip_erase, recvReady_erase, erase_pos, apply_ite (Option.map (erase z)),
      Option.map_some, endPhase_erase, erase_idem]
  · rw [if_neg he, if_neg he]
    refine recv_erase s failCmd _ _ failCmd_erase ?_
    simp only [apply_ite (Option.map (erase z)), Option.map_some, endPhase_erase, erase_idem]

theorem startPhase_erase (F : Framing σ) (s : State σ) :
    (startPhase F ((erase z) s)).map (erase z) = (startPhase F s).map (erase z) := by
  unfold startPhase
  simp only [erase_fields]
  cases s.phases with
  | nil => rfl
  | cons p ps => cases p <;> exact congrArg some (weak_of_strong rfl)

theorem tick_erase (F : Framing σ) (s : State σ) :
    (tick F ((erase z) s)).map (erase z) = (tick F s).map (erase z) := by
  unfold tick
  simp only [erase_fields]
  split
  · rfl
  · cases s.pos with
    | noPhase => exact startPhase_erase F s
    | idle m => exact tickIdle_erase F s m
    | inflight m q tx dl => exact tickInflight_erase F s m q tx dl
    | waitEnabled => exact tickWait_erase s
    | failFor dl c => exact tickFail_erase s dl c

theorem tick_congr (F : Framing σ) (a b : State σ) (h : erase z a = erase z b) :
    (tick F a).map (erase z) = (tick F b).map (erase z) := by
  rw [← tick_erase F a, ← tick_erase F b, h]

theorem settle_congr (F : Framing σ) (fuel : Nat) (a b : State σ) (h : erase z a = erase z b) :
    erase z (settle F fuel a) = erase z (settle F fuel b) := by
  induction fuel generalizing a b with
  | zero => exact h
  | succ n ih =>
    rcases map_eq_map_cases (tick_congr F a b h) with ⟨h1, h2⟩ | ⟨a', b', h1, h2, h'⟩
    · rw [settle_succ_none F n a h1, settle_succ_none F n b h2,
        congr_of_erase (g := State.held) (fun _ => rfl) h]
      split
      · exact h
      · exact ih { a with held := 0 } { b with held := 0 }
          (congrArg (fun s : State σ => { s with held := 0 }) h)
    · rw [settle_succ_some F n a a' h1, settle_succ_some F n b b' h2]
      exact ih a' b' h'

theorem settleFuel_erase (s : State σ) : settleFuel ((erase z) s) = settleFuel s := by
  simp [settleFuel, erase]

theorem settled_congr (F : Framing σ) (a b : State σ) (h : erase z a = erase z b) :
    erase z (settled F a) = erase z (settled F b) := by
  unfold settled
  rw [congr_of_erase settleFuel_erase h]
  exact settle_congr F _ a b h

theorem moveClock_congr (a b : State σ) (h : erase z a = erase z b) (t : Nat) :
    erase z (moveClock a t) = erase z (moveClock b t) := by
  rw [← moveClock_erase, ← moveClock_erase, h]

theorem advance_congr (F : Framing σ) (fuel target : Nat) (a b : State σ)
    (h : erase z a = erase z b) :
    erase z (advance F fuel target a) = erase z (advance F fuel target b) := by
  induction fuel generalizing a b with
  | zero => exact moveClock_congr a b h target
  | succ n ih =>
    rw [advance, advance, congr_of_erase nextTimer_erase h]
    cases nextTimer b with
    | none => exact moveClock_congr a b h target
    | some dl =>
      dsimp only
      split
      · exact ih _ _ (settled_congr F _ _ (moveClock_congr a b h dl))
      · exact moveClock_congr a b h target

theorem advanceFuel_erase (s : State σ) : advanceFuel ((erase z) s) = advanceFuel s := by
  simp [advanceFuel, erase]

theorem completeAll_erase (s : State σ) (res : Res) (rs : List Req) :
    completeAll ((erase z) s) res rs = (erase z) (completeAll s res rs) := by
  induction rs generalizing s with
  | nil => rfl
  | cons r rs ih => unfold completeAll; rw [complete_erase, ih]

theorem abort_erase (s : State σ) : abort ((erase z) s) = (erase z) (abort s) := by
  unfold abort
  rw [show inflightReqs (erase z s) = inflightReqs s from rfl]
  simp only [erase_fields, reqsOf_erase, completeAll_erase, apply_ite (erase z)]
  rfl

theorem submit_erase (s : State σ) (op : SubmitOp) (r : Req) :
    submit ((erase z) s) op r = (erase z) (submit s op r) := by
  have hq : enqueue (erase z (accept s r.rid)) (.req r) = erase z (enqueue (accept s r.rid) (.req r)) :=
    enqueue_erase _ (.req r)
  unfold submit
  cases precheck (decide (op = .Q)) r.req with
  | refuse e => rfl
  | invalid e bits => cases op <;> simp only [accept_erase, complete_erase, emit_erase]
  | pass =>
    cases op <;>
      simp only [accept_erase, erase_fields, List.length_map, apply_ite (erase z), complete_erase,
        emit_erase, hq]

theorem trySetting_erase (s : State σ) (op : CmdOp) (c : Cmd) :
    trySetting ((erase z) s) op ((eraseCmd z) c) = (erase z) (trySetting s op c) := by
  unfold trySetting
  simp only [erase_fields, List.length_map, apply_ite (erase z), emit_erase, enqueue_erase]

theorem addPhase_erase (s : State σ) (p : Phase) : addPhase ((erase z) s) p = (erase z) (addPhase s p) := by
  unfold addPhase
  simp only [erase_fields, apply_ite (erase z)]
  rfl

theorem pushRx_erase (s : State σ) (x : Rx) : pushRx ((erase z) s) x = (erase z) (pushRx s x) := by
  unfold pushRx
  simp only [erase_fields]
  cases s.mocks.length <;> rfl

theorem applyStep_erase (s : State σ) (st : Step) :
    applyStep ((erase z) s) ((eraseStep z) st) = (erase z) (applyStep s st) := by
  have cond : ∀ (b : Bool) {x y x' y' : State σ}, x' = erase z x → y' = erase z y →
      (if b then x' else y') = erase z (if b then x else y) := by
    intro b _ _ _ _ hx hy
    rw [hx, hy, apply_ite (erase z)]
  cases st with
  | newSession => exact addPhase_erase { s with mocks := s.mocks ++ [{}] } _
  | waitEnabled => exact addPhase_erase s _
  | failFor ms => exact addPhase_erase s _
  | enable h => exact cond _ (trySetting_erase s .E .enable) rfl
  | disable h => exact cond _ (trySetting_erase s .D .disable) rfl
  | setDecode d => exact cond _ (trySetting_erase s .L (.setDecode d)) rfl
  | shutdown h => exact cond _ (enqueue_erase s .shutdown) rfl
  | submit op h r => exact cond _ (submit_erase s op r) (emit_erase s _)
  | cloneHandle => rfl
  | dropHandle i => rfl
  | rx x => exact pushRx_erase s x
  | failWrite =>
    simp only [applyStep, eraseStep, erase_fields]
    cases s.mocks.length <;> rfl
  | advance ms => rfl
  | abort => exact abort_erase s

theorem stepState_erase (F : Framing σ) (s : State σ) (st : Step) :
    erase z (stepState F (erase z s) (eraseStep z st)) = erase z (stepState F s st) := by
  cases st with
  | advance ms =>
    show erase z (advance F (advanceFuel (erase z s)) (s.now + ms) (erase z s)) = _
    rw [advanceFuel_erase]
    exact advance_congr F _ _ _ s (erase_idem s)
  | _ => exact settled_congr F _ _ (weak_of_strong (applyStep_erase s _))

theorem stepState_congr (F : Framing σ) (a b : State σ) (st st' : Step)
    (h : erase z a = erase z b) (hst : eraseStep z st = eraseStep z st') :
    erase z (stepState F a st) = erase z (stepState F b st') := by
  rw [← stepState_erase F a st, ← stepState_erase F b st', h, hst]

theorem run_congr (F : Framing σ) (s t : State σ) (steps steps' : List Step)
    (hs : erase z s = erase z t) (hst : steps.map (eraseStep z) = steps'.map (eraseStep z)) :
    (run F s steps).2 = (run F t steps').2
      ∧ erase z (run F s steps).1 = erase z (run F t steps').1 := by
  induction steps generalizing s t steps' with
  | nil =>
    cases steps' with
    | nil => exact ⟨rfl, hs⟩
    | cons _ _ => cases hst
  | cons st rest ih =>
    cases steps' with
    | nil => cases hst
    | cons st' rest' =>
      obtain ⟨h1, h2⟩ := List.cons.inj hst
      have h := stepState_congr F s t st st' hs h1
      obtain ⟨i1, i2⟩ := ih (stepState F s st) (stepState F t st') rest' h h2
      simp only [run, step]
      rw [i1, congr_of_erase (g := State.log) (fun _ => rfl) hs,
        congr_of_erase (g := State.log) (fun _ => rfl) h]
      exact ⟨rfl, i2⟩

def eraseDecode (s : State σ) : State σ := { s with decode := zeroD }

theorem erase_false (s : State σ) : erase false s = eraseDecode s := by
  have : s.queue.map (eraseCmd false) = s.queue := by
    rw [show eraseCmd false = id from funext eraseCmd_false]; simp
  simp [erase, eraseDecode, this]

theorem map_eraseStep_false (steps : List Step) : steps.map (eraseStep false) = steps := by
  rw [show eraseStep false = id from funext eraseStep_false]; simp

theorem eraseDecode_eq_iff (s t : State σ) :
    eraseDecode s = eraseDecode t ↔ t = { s with decode := t.decode } :=
  ⟨fun h => (congrArg (fun x : State σ => { x with decode := t.decode }) h).symm,
    fun h => by rw [h]; rfl⟩

theorem runCmd_setDecode_enabled (F : Framing σ) (s : State σ) (m : Nat) (d : Decode)
    (he : s.enabled = true) : runCmd F s m (.setDecode d) = { s with decode := d } := by
  simp [runCmd, applySetting, he]

theorem runCmd_setDecode_disabled (F : Framing σ) (s : State σ) (m : Nat) (d : Decode)
    (he : s.enabled = false) :
    runCmd F s m (.setDecode d) = endPhase { s with decode := d } .disabled := by
  simp [runCmd, applySetting, he]

theorem failCmd_setDecode_enabled (s : State σ) (d : Decode) (he : s.enabled = true) :
    failCmd s (.setDecode d) = { s with decode := d } := by
  simp [failCmd, applySetting, he]

theorem waitCmd_setDecode (s : State σ) (d : Decode) :
    waitCmd s (.setDecode d) = { s with decode := d } := rfl

theorem applyStep_setDecode (s : State σ) (d : Decode) :
    applyStep s (.setDecode d) =
      if handleAlive s 0 then
        (if !s.alive || decide (s.queue.length ≥ s.cap) then emit s (.cmdErr .L)
         else enqueue s (.setDecode d))
      else s := rfl

/-- the task is blocked in a phase that takes commands, nothing is queued, handle 0 is alive, the
    queue has room, and (in a session) the reader is blocked with nothing left to read -/
def Quiescent (F : Framing σ) (s : State σ) : Prop :=
  s.alive = true ∧ handleAlive s 0 = true ∧ 0 < s.cap ∧ s.queue = [] ∧ s.held = 0
    ∧ ((∃ m, s.pos = .idle m ∧ s.enabled = true ∧ (getMock s m).rx = []
          ∧ pollReader F s m = (.blocked, s))
        ∨ (s.pos = .waitEnabled ∧ s.enabled = false)
        ∨ (∃ dl, s.pos = .failFor dl false ∧ s.enabled = true ∧ s.now < dl))

theorem closed_of_handle (s : State σ) (h : handleAlive s 0 = true) : closed s = false := by
  unfold handleAlive at h
  unfold closed
  cases hh : s.handles with
  | nil => rw [hh] at h; cases h
  | cons a l => rw [hh] at h; simp at h; simp [h]

theorem tick_quiescent (F : Framing σ) (s : State σ) (h : Quiescent F s) (d : Decode) :
    tick F { s with decode := d } = none := by
  obtain ⟨ha, hh, _, hq, _, hcase⟩ := h
  have hc : closed ({ s with decode := d } : State σ) = false := closed_of_handle s hh
  rcases hcase with ⟨m, hp, he, hrx, hpoll⟩ | ⟨hp, he⟩ | ⟨dl, hp, he, hnow⟩
  · rw [tick_eq_tickIdle F { s with decode := d } m ha hp, tickIdle_eq_none,
      pollReader_congr F s { s with decode := d } m rfl rfl rfl, hpoll]
    exact ⟨rfl, hrx, hq, hc⟩
  · rw [tick_eq_tickWait F { s with decode := d } ha hp, tickWait_eq_none]
    exact ⟨he, hq, hc⟩
  · rw [tick_eq_tickFail F { s with decode := d } dl false ha hp, tickFail_eq_none]
    exact ⟨hnow, hq, hc⟩

/-- one step of `level_change_transparent_client_partial` (Props/C20Client): in a quiescent state
    the step `L<d>` only changes the `decode` field; it logs nothing -/
theorem step_setDecode_quiescent (F : Framing σ) (s : State σ) (h : Quiescent F s) (d : Decode) :
    stepState F s (.setDecode d) = { s with decode := d } := by
  have hnone := tick_quiescent F s h d
  obtain ⟨ha, hh, hcap, hq, hheld, hcase⟩ := h
  have happly : applyStep s (.setDecode d) = { s with queue := [.setDecode d] } := by
    simp [applyStep_setDecode, hh, ha, enqueue, hq, hcap, Nat.ne_of_gt hcap]
  have htick : tick F { s with queue := [.setDecode d] } = some { s with decode := d } := by
    rcases hcase with ⟨m, hp, he, hrx, hpoll⟩ | ⟨hp, he⟩ | ⟨dl, hp, he, hnow⟩
    · have hpoll' : pollReader F { s with queue := [.setDecode d] } m
          = (.blocked, { s with queue := [.setDecode d] }) := by
        rw [pollReader_frame F s { s with queue := [.setDecode d] } m rfl rfl rfl, hpoll]
      rw [tick_eq_tickIdle F { s with queue := [.setDecode d] } m ha hp, tickIdle_eq, hpoll']
      simp [sessionRecv, runCmd, applySetting, he, hq]
    · rw [tick_eq_tickWait F { s with queue := [.setDecode d] } ha hp]
      simp [tickWait, he, waitCmd, applySetting, hq]
    · rw [tick_eq_tickFail F { s with queue := [.setDecode d] } dl false ha hp, tickFail_eq]
      simp [Nat.not_le.mpr hnow, failCmd, applySetting, he, hq]
  show settled F (applyStep s (.setDecode d)) = _
  rw [happly]
  unfold settled settleFuel
  rw [settle_succ_some F _ _ _ htick, settle_succ_none F _ _ hnone, if_pos hheld]

end
end Rodbus.Client
