import RodbusModel.Model.ServerNet
/-
  The accept-loop model `ServerNet` seen through `lookup`.  One case walk over `step` (`step_eq`)
  says which state transformer a step applies (`effect`) and what it reports (`outputs`); an
  invariant is proved per transformer and lifted to steps and runs, and isolation between
  connections is `lookup_apply_ne`.
-/
namespace Rodbus.ServerNet
open Rodbus.Filter

theorem find_key_filter_ne (l : List (Nat × Option Nat)) (a b : Nat) (h : a ≠ b) :
    (l.filter (·.1 ≠ b)).find? (·.1 = a) = l.find? (·.1 = a) := by
  rw [List.find?_filter]
  congr 1
  funext x
  by_cases hx : x.1 = a
  · simp [hx, h]
  · simp [hx]

theorem find_key_filter_self (l : List (Nat × Option Nat)) (k : Nat) :
    (l.filter (·.1 ≠ k)).find? (·.1 = k) = none := by
  rw [List.find?_eq_none]
  intro x hx
  simpa using (List.mem_filter.mp hx).2

theorem lookup_setConn_ne (n : Net) (a b : Nat) (v : Option Nat) (h : a ≠ b) :
    lookup (setConn n b v) a = lookup n a := by
  simp only [lookup, setConn]
  rw [List.find?_append, find_key_filter_ne _ _ _ h]
  have : ([((b, v) : Nat × Option Nat)].find? (·.1 = a)) = none := by
    simp [List.find?_singleton]; exact fun e => h e.symm
  rw [this]
  cases n.conns.find? (·.1 = a) <;> rfl

theorem lookup_setConn_self (n : Net) (k : Nat) (v : Option Nat) :
    lookup (setConn n k v) k = some v := by
  simp only [lookup, setConn]
  rw [List.find?_append, find_key_filter_self]
  simp

/-- the table without label `k` (the second half of a `close k` step) -/
def dropConn (n : Net) (k : Nat) : Net := { n with conns := n.conns.filter (·.1 ≠ k) }

theorem lookup_remove_ne (n : Net) (a b : Nat) (h : a ≠ b) : lookup (dropConn n b) a = lookup n a := by
  simp only [lookup, dropConn]
  rw [find_key_filter_ne _ _ _ h]

theorem lookup_remove_self (n : Net) (k : Nat) : lookup (dropConn n k) k = none := by
  simp only [lookup, dropConn]
  rw [find_key_filter_self]; rfl

/-- what `sweep` does to one table value: an id survives iff it is still tracked -/
def sweepVal (t : Tracker.Tracker) (v : Option Nat) : Option Nat :=
  v.filter (fun id => t.ids.contains id)

theorem sweepVal_some (t : Tracker.Tracker) (id : Nat) :
    sweepVal t (some id) = if id ∈ t.ids then some id else none := by
  simp [sweepVal, Option.filter]

theorem sweepVal_eq_some {t : Tracker.Tracker} {v : Option Nat} {i : Nat}
    (h : sweepVal t v = some i) : v = some i ∧ i ∈ t.ids := by
  obtain ⟨h1, h2⟩ := Option.filter_eq_some_iff.mp h
  exact ⟨h1, List.contains_iff_mem.mp h2⟩

theorem sweep_conns (n : Net) :
    (sweep n).conns = n.conns.map (fun c => (c.1, sweepVal n.tracker c.2)) := by
  simp only [sweep]
  apply List.map_congr_left
  intro c _
  obtain ⟨k, v⟩ := c
  cases v with
  | none => rfl
  | some id =>
    simp only [sweepVal, Option.filter]
    split <;> rfl

theorem lookup_map_values (l : List (Nat × Option Nat)) (f : Option Nat → Option Nat) (a : Nat) :
    ((l.map fun c => (c.1, f c.2)).find? (·.1 = a)).map (·.2) = ((l.find? (·.1 = a)).map (·.2)).map f := by
  rw [List.find?_map]
  show ((l.find? fun x => decide (x.1 = a)).map _).map _ = _
  cases l.find? (·.1 = a) <;> rfl

theorem lookup_sweep (n : Net) (a : Nat) :
    lookup (sweep n) a = (lookup n a).map (sweepVal n.tracker) := by
  simp only [lookup, sweep_conns]
  exact lookup_map_values ..

/-- `shutdown` through a live handle (`hd = n.handle`) / dropping the handle (`hd = false`) -/
def closeConns (n : Net) (hd : Bool) : Net :=
  { n with listening := false, handle := hd, conns := n.conns.map fun (k, _) => (k, none),
           tracker := { n.tracker with ids := [] } }

theorem lookup_closeConns (n : Net) (hd : Bool) (a : Nat) :
    lookup (closeConns n hd) a = (lookup n a).map (fun _ => none) :=
  lookup_map_values n.conns (fun _ => none) a

theorem mem_of_lookup {n : Net} {k : Nat} {v : Option Nat} (h : lookup n k = some v) :
    (k, v) ∈ n.conns := by
  obtain ⟨⟨k', v'⟩, hf, rfl⟩ := Option.map_eq_some_iff.mp h
  have hk := List.find?_some hf
  cases of_decide_eq_true hk
  exact List.mem_of_find?_eq_some hf

theorem isOpen_iff (n : Net) (k : Nat) : isOpen n k = true ↔ ∃ id, lookup n k = some (some id) := by
  unfold isOpen
  cases lookup n k with
  | none => simp
  | some v => cases v <;> simp

theorem isOpen_congr {n n' : Net} {a : Nat} (h : lookup n' a = lookup n a) :
    isOpen n' a = isOpen n a := by
  simp only [isOpen, h]

theorem ne_of_open_of_not_open {n : Net} {a k id : Nat} (ha : lookup n a = some (some id))
    (hk : isOpen n k = false) : a ≠ k := fun e => by
  rw [← e, isOpen, ha] at hk; cases hk

theorem endSession_eq (n : Net) (k : Nat) :
    ((∀ id, lookup n k ≠ some (some id)) ∧ endSession n k = n) ∨
    ∃ id, lookup n k = some (some id) ∧
      endSession n k = setConn { n with tracker := Tracker.remove n.tracker id } k none := by
  unfold endSession
  split
  · rename_i id h; exact .inr ⟨id, h, rfl⟩
  · rename_i h; exact .inl ⟨h, rfl⟩

theorem mem_endSession_ids {n : Net} {k i : Nat} (hi : i ∈ (endSession n k).tracker.ids) :
    i ∈ n.tracker.ids ∧ lookup n k ≠ some (some i) := by
  rcases endSession_eq n k with ⟨hn, e⟩ | ⟨id, hl, e⟩ <;> rw [e] at hi
  · exact ⟨hi, hn i⟩
  · obtain ⟨h1, h2⟩ := List.mem_filter.mp hi
    exact ⟨h1, fun e' => by rw [hl] at e'; cases e'; simp at h2⟩

theorem lookup_endSession_ne (n : Net) (a b : Nat) (h : a ≠ b) :
    lookup (endSession n b) a = lookup n a := by
  rcases endSession_eq n b with ⟨_, e⟩ | ⟨_, _, e⟩ <;> rw [e]
  exact lookup_setConn_ne _ _ _ _ h

theorem lookup_endSession_self (n : Net) (k : Nat) :
    lookup (endSession n k) k = (lookup n k).map (fun _ => none) := by
  rw [endSession]
  match h : lookup n k with
  | none | some none => exact h
  | some (some id) => exact lookup_setConn_self _ k _

/-- an accepted `connect k`: a fresh id, the oldest one evicted if the tracker is full -/
def acceptConn (n : Net) (k : Nat) : Net :=
  sweep (setConn { n with tracker := (Tracker.add n.tracker).2 } k (some n.tracker.next))

theorem lookup_acceptConn_ne (n : Net) (a k : Nat) (h : a ≠ k) :
    lookup (acceptConn n k) a = (lookup n a).map (sweepVal (Tracker.add n.tracker).2) := by
  rw [acceptConn, lookup_sweep, lookup_setConn_ne _ _ _ _ h]; rfl

theorem lookup_acceptConn_self (n : Net) (k : Nat) :
    lookup (acceptConn n k) k = some (some n.tracker.next) := by
  rw [acceptConn, lookup_sweep, lookup_setConn_self, Option.map_some, sweepVal_some, if_pos]
  exact List.mem_append_right _ (List.mem_singleton_self _)

inductive Effect
  | none | accept (k : Nat) | reject (k : Nat) | endS (k : Nat) | close (k : Nat) | closeAll (hd : Bool)

def Effect.apply (n : Net) : Effect → Net
  | .none => n
  | .accept k => acceptConn n k
  | .reject k => setConn n k Option.none
  | .endS k => endSession n k
  | .close k => dropConn (endSession n k) k
  | .closeAll hd => closeConns n hd

/-- `garbage k` on an absent label is `endS k` too: `endSession` then changes nothing -/
def effect (n : Net) : Step → Effect
  | .connect k src =>
    if !n.listening then .none else if n.filter.matches src then .accept k else .reject k
  | .garbage k => .endS k
  | .close k => .close k
  | .shutdown => if n.handle then .closeAll n.handle else .none
  | .dropHandle => .closeAll false
  | _ => .none

/-- what a step reports.  A step on a label reports `noconn` if the label is not in the table and
    otherwise the status of the connection; service (`ok.982`, `ok`) is reported by `request` and
    `pipeline` on an open plain-TCP connection and by nothing else -/
def outputs (n : Net) : Step → List Obs
  | .connect k src =>
    [.conn k (if !n.listening then "refused" else if n.filter.matches src then "open" else "closed")]
  | .request k =>
    [.req k (if isOpen n k && !n.tls then "ok.982"
      else if lookup n k = none then "noconn" else "closed")]
  | .pipeline k cnt =>
    [if isOpen n k && !n.tls then .pipe k "ok" cnt
      else .pipe k (if lookup n k = none then "noconn" else "closed") 0]
  | .garbage k =>
    [.garb k (if lookup n k = none then "noconn"
      else if n.tls && isOpen n k then "data" else "closed")]
  | .probe k =>
    [.prob k (if lookup n k = none then "noconn" else if isOpen n k then "open" else "closed")]
  | .setDecode => if n.handle then [.cmd "L" (if n.listening then "ok" else "shutdown")] else []
  | .shutdown => if n.handle then [.cmd "S" (if n.listening then "ok" else "shutdown")] else []
  | .close _ | .dropHandle => []

/-- the one case walk over `step` -/
theorem step_eq (n : Net) (s : Step) : step n s = ((effect n s).apply n, outputs n s) := by
  cases s with
  | connect k src =>
    dsimp only [step, effect, outputs]
    split
    · rfl
    · split <;> rfl
  | request k | pipeline k cnt | garbage k | probe k =>
    dsimp only [step, effect, outputs, Effect.apply]
    cases h : lookup n k with
    | none => simp only [endSession, isOpen, h]; rfl
    | some _ => simp only [reduceCtorEq, if_false]
  | setDecode | shutdown => dsimp only [step, effect, outputs]; split <;> rfl
  | close k | dropHandle => rfl

theorem step_fst (n : Net) (s : Step) : (step n s).1 = (effect n s).apply n :=
  congrArg Prod.fst (step_eq n s)

theorem step_connect_refused (n : Net) (k : Nat) (src : Addr) (h : n.listening = false) :
    step n (.connect k src) = (n, [.conn k "refused"]) := by
  rw [step_eq, effect, outputs, h]; rfl

theorem step_connect_accept (n : Net) (k : Nat) (src : Addr) (h : n.listening = true)
    (hm : n.filter.matches src = true) :
    step n (.connect k src) = (acceptConn n k, [.conn k "open"]) := by
  rw [step_eq, effect, outputs, h, hm]; rfl

theorem step_connect_reject (n : Net) (k : Nat) (src : Addr) (h : n.listening = true)
    (hm : n.filter.matches src = false) :
    step n (.connect k src) = (setConn n k none, [.conn k "closed"]) := by
  rw [step_eq, effect, outputs, h, hm]; rfl

theorem step_preserves {P : Net → Prop} (hP : ∀ n e, P n → P (Effect.apply n e))
    (n : Net) (s : Step) (h : P n) : P (step n s).1 := by
  rw [step_fst]; exact hP n _ h

theorem run_cons (n : Net) (s : Step) (rest : List Step) :
    run n (s :: rest) = ((run (step n s).1 rest).1, (step n s).2 ++ (run (step n s).1 rest).2) := rfl

theorem run_pair_fst (n : Net) (a b : Step) : (run n [a, b]).1 = (step (step n a).1 b).1 := by
  rw [run_cons, run_cons]; rfl

theorem run_preserves {P : Net → Prop} (hP : ∀ n s, P n → P (step n s).1)
    (steps : List Step) (n : Net) (h : P n) : P (run n steps).1 := by
  induction steps generalizing n with
  | nil => exact h
  | cons s rest ih => exact ih _ (hP n s h)

/-- the tail-recursive runner used by the driver is `run` -/
theorem runAux_eq (steps : List Step) (n : Net) (acc : List Obs) :
    runAux n steps acc = ((run n steps).1, acc.reverse ++ (run n steps).2) := by
  induction steps generalizing n acc with
  | nil => simp [runAux, run]
  | cons s rest ih =>
    simp only [runAux, run]
    rw [ih]
    simp [List.reverse_append, List.append_assoc]

/-- The frame of every step, in this order: `tls`, the tracker's `max` and `filter` are written
    by no transformer; `listening`, once false, stays false (`closeAll` alone writes it). -/
theorem step_frame (n : Net) (s : Step) :
    (step n s).1.tls = n.tls ∧ (step n s).1.tracker.max = n.tracker.max ∧
    (step n s).1.filter = n.filter ∧ (n.listening = false → (step n s).1.listening = false) := by
  have hend (k : Nat) : (endSession n k).tls = n.tls ∧ (endSession n k).tracker.max = n.tracker.max ∧
      (endSession n k).filter = n.filter ∧ (endSession n k).listening = n.listening := by
    rcases endSession_eq n k with ⟨_, h⟩ | ⟨_, _, h⟩ <;> rw [h] <;> exact ⟨rfl, rfl, rfl, rfl⟩
  rw [step_fst]
  cases effect n s with
  | endS k | close k => exact ⟨(hend k).1, (hend k).2.1, (hend k).2.2.1, (hend k).2.2.2.trans⟩
  | closeAll hd => exact ⟨rfl, rfl, rfl, fun _ => rfl⟩
  | none | accept k | reject k => exact ⟨rfl, rfl, rfl, id⟩

def Effect.label : Effect → Option Nat
  | .accept k | .reject k | .endS k | .close k => some k
  | _ => Option.none

/-- What a transformer does to the table entries of the labels it is not about: `accept` sweeps
    them (an id evicted from the full tracker loses its entry), `closeAll` closes them, the others
    leave them alone.  It is a function of the tracker and the entry, not of the label: that is
    isolation between connections (`lookup_apply_ne`). -/
def Effect.onOthers (n : Net) : Effect → Option Nat → Option Nat
  | .accept _ => sweepVal (Tracker.add n.tracker).2
  | .closeAll _ => fun _ => Option.none
  | _ => id

/-- isolation in general: the entry of any label other than the transformer's own is mapped by a
    function that depends on the tracker only -/
theorem lookup_apply_ne (n : Net) (e : Effect) (a : Nat) (h : e.label ≠ some a) :
    lookup (e.apply n) a = (lookup n a).map (e.onOthers n) := by
  have hne : ∀ k, e.label = some k → a ≠ k := fun k hk ha => h (ha ▸ hk)
  cases e with
  | none => exact Option.map_id'.symm
  | accept k => exact lookup_acceptConn_ne n a k (hne k rfl)
  | reject k => exact (lookup_setConn_ne n a k _ (hne k rfl)).trans Option.map_id'.symm
  | endS k => exact (lookup_endSession_ne n a k (hne k rfl)).trans Option.map_id'.symm
  | close k =>
    exact ((lookup_remove_ne _ a k (hne k rfl)).trans (lookup_endSession_ne n a k (hne k rfl))).trans
      Option.map_id'.symm
  | closeAll hd => exact lookup_closeConns n hd a

theorem lookup_step_ne (n : Net) (s : Step) (a : Nat) (h : (effect n s).label ≠ some a) :
    lookup (step n s).1 a = (lookup n a).map ((effect n s).onOthers n) := by
  rw [step_fst]; exact lookup_apply_ne n _ a h

theorem effect_connect {n : Net} {s : Step} {k : Nat}
    (h : effect n s = .accept k ∨ effect n s = .reject k) : ∃ src, s = .connect k src := by
  cases s with
  | connect k' src =>
    refine ⟨src, ?_⟩
    simp only [effect] at h
    split at h
    · rcases h with h | h <;> cases h
    · split at h <;> rcases h with h | h <;> cases h <;> rfl
  | shutdown => simp only [effect] at h; split at h <;> rcases h with h | h <;> cases h
  | _ => rcases h with h | h <;> cases h

/-- a label that is not in the table stays out of it unless it is connected -/
theorem lookup_none_step (n : Net) (s : Step) (a : Nat) (h : lookup n a = none)
    (hs : ∀ src, s ≠ .connect a src) : lookup (step n s).1 a = none := by
  rw [step_fst]
  by_cases hl : (effect n s).label = some a
  · -- the step is about `a` itself: it is no `connect`, so it ends a session or drops the entry
    have hc (he : effect n s = .accept a ∨ effect n s = .reject a) : False :=
      let ⟨src, e⟩ := effect_connect he; hs src e
    generalize effect n s = e at hl hc
    cases e with
    | accept k => cases hl; exact (hc (.inl rfl)).elim
    | reject k => cases hl; exact (hc (.inr rfl)).elim
    | endS k => cases hl; exact (lookup_endSession_self n a).trans (by rw [h]; rfl)
    | close k => cases hl; exact lookup_remove_self _ a
    | none | closeAll hd => cases hl
  · rw [lookup_apply_ne n _ a hl, h]; rfl

theorem lookup_close (n : Net) (k c : Nat) :
    lookup (step n (.close k)).1 c = if c = k then none else lookup n c := by
  show lookup (dropConn (endSession n k) k) c = _
  split
  · subst c; exact lookup_remove_self _ k
  · rw [lookup_remove_ne _ c k ‹_›, lookup_endSession_ne _ c k ‹_›]

/-- what the end of a session whose table entry is `v` does to the tracker -/
def closeTracker (t : Tracker.Tracker) : Option (Option Nat) → Tracker.Tracker
  | some (some id) => Tracker.remove t id
  | _ => t

theorem tracker_close (n : Net) (k : Nat) :
    (step n (.close k)).1.tracker = closeTracker n.tracker (lookup n k) := by
  show (endSession n k).tracker = _
  rw [endSession]
  match lookup n k with
  | none | some none | some (some id) => rfl

end Rodbus.ServerNet
