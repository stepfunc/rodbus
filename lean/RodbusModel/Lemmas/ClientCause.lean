import RodbusModel.Lemmas.ClientMeaning
/-
  WHY a request completes: `TickCause F s r res`, read off the exact relation `Tick` on the concrete
  state (finer than `TEff`), and lifted to runs: every completion of a run has its cause in a state
  in which the task was polled.  Those states lie on the abstract path of the run, and the request
  in flight in them is one that `encodeRequest` accepted.
-/
namespace Rodbus.Client

/-- results that are derived from a reply PDU by `Request::handle_response` and are not a refusal
    of the request: `Ok`, `Exception`, `BadResponse` -/
def Res.isReply : Res → Bool
  | .ok _ | .exc _ | .badResp => true
  | _ => false

theorem frameErrRes_not_reply (e : FrameErr) : (frameErrRes e).isReply = false := by
  cases e <;> rfl

theorem dequeueRes_not_reply {res : Res} (h : DequeueRes res) : res.isReply = false := by
  rcases h with ⟨e, rfl⟩ | rfl | ⟨e, rfl⟩
  · rfl
  · rfl
  · exact frameErrRes_not_reply e

section
variable {σ : Type}

theorem pollReader_fail_not_reply (F : Framing σ) (s : State σ) (m : Nat) (res : Res)
    (h : (pollReader F s m).1 = .fail res) : res.isReply = false := by
  rcases pollReader_fail_cases F s m res h with ⟨e, rfl⟩ | rfl | rfl
  · exact frameErrRes_not_reply e
  · rfl
  · rfl

variable {F : Framing σ} {s x t : State σ} {m : Nat}

@[simp] theorem log_applySetting (s : State σ) (c : Cmd) : (applySetting s c).log = s.log :=
  congrArg Core.log (core_applySetting s c)

theorem mem_finish_log (s1 : State σ) (m : Nat) (q : Req) (res : Res) (e : LogEntry)
    (he : e.isDone = true) (h : e ∈ (finish s1 m q res).log) :
    e = .done q.rid q.style res s1.now ∨ e ∈ s1.log := by
  have h' : e ∈ (core (finish s1 m q res)).log := h
  rw [core_finish] at h'
  exact List.mem_cons.mp (mem_afterCore_log _ m res e he h')

/-- the tick taken in state `s` completes request `r` with `res` (logging
    `.done r.rid r.style res s.now`), for the reason given by the constructor -/
inductive TickCause (F : Framing σ) (s : State σ) (r : Req) (res : Res) : Prop
  /-- `fail_next_request`: the channel is not connected -/
  | noConn (q : List Cmd) : res = .noConn → s.alive = true →
      (s.pos = .waitEnabled ∨ ∃ dl b, s.pos = .failFor dl b) → s.queue = .req r :: q →
      TickCause F s r res
  /-- the request just taken from the queue cannot be encoded or written, or malformed bytes were
      buffered before it -/
  | dequeue (m : Nat) (q : List Cmd) : s.alive = true → s.pos = .idle m →
      s.queue = .req r :: q → DequeueRes res → TickCause F s r res
  /-- `r` is in flight: its deadline has been reached, the reader delivered a frame with a matching
      transaction id, or the reader reported an error -/
  | inflight (m tx dl : Nat) : s.alive = true → s.pos = .inflight m r tx dl →
      FinishCause F s m r tx dl res → TickCause F s r res

theorem Tick.done_cause (ha : s.alive = true) (h : Tick F s t) (e : LogEntry)
    (he : e.isDone = true) (hm : e ∈ t.log) :
    e ∈ s.log ∨ ∃ r res, e = .done r.rid r.style res s.now ∧ TickCause F s r res := by
  cases h with
  | startSession m ps hp hph | startWait ps hp hph | startFail ms ps hp hph => exact .inl hm
  | commit dl hp =>
    obtain ⟨cs, h⟩ := flip_writes s
    rw [h] at hm; exact .inl hm
  | reader m y ho hy hb hf =>
    obtain ⟨_, _, _, _, h⟩ := (Pre.polled (F := F) ho hy).writes
    rw [h] at hm; exact .inl hm
  | phaseEnd x k hx hn hi hk =>
    obtain ⟨_, _, _, _, rfl⟩ := hx.writes
    exact .inl (mem_of_done_cons (e' := .fin k _) he rfl hm)
  | phaseEndCmd x c q k hx hn hi hq hc hk =>
    obtain ⟨_, _, _, _, rfl⟩ := hx.writes
    have hm' := mem_of_done_cons (e' := .fin k _) he rfl hm
    rw [log_applySetting] at hm'; exact .inl hm'
  | setting x c q hx hn hi hq hc =>
    obtain ⟨_, _, _, _, rfl⟩ := hx.writes
    rw [log_applySetting] at hm; exact .inl hm
  | noConn r q hp hq =>
    rcases List.mem_cons.mp hm with rfl | hm
    · exact .inr ⟨r, _, rfl, .noConn q rfl ha hp hq⟩
    · exact .inl hm
  | request m x r q t hp hx hq hst =>
    obtain ⟨_, _, _, _, rfl⟩ := hx.writes
    cases hst with
    | fail y res hy =>
      obtain ⟨_, _, _, rfl⟩ := hy.writes
      rcases mem_finish_log _ m r res e he hm with rfl | hm
      · exact .inr ⟨r, res, rfl, .dequeue m q ha hp hq hy.res⟩
      · exact .inl hm
    | sent pdu st' rb' he' hd hw =>
      have hm' : e ∈ (if isLatest _ m then LogEntry.tx _ :: s.log else s.log) := hm
      split at hm'
      · exact .inl (mem_of_done_cons (e' := .tx _) he rfl hm')
      · exact .inl hm'
  | finish m q tx dl x res hp hx hf =>
    obtain ⟨_, _, _, _, rfl⟩ := hx.writes
    rcases mem_finish_log _ m q res e he hm with rfl | hm
    · exact .inr ⟨q, res, rfl, .inflight m tx dl ha hp hf⟩
    · exact .inl hm

theorem tick_done_cause (F : Framing σ) (s t : State σ) (h : tick F s = some t) (e : LogEntry)
    (he : e.isDone = true) (hm : e ∈ t.log) :
    e ∈ s.log ∨ ∃ r res, e = .done r.rid r.style res s.now ∧ TickCause F s r res :=
  (tick_cases h).2.done_cause (tick_cases h).1 e he hm

/-- only the delivery of a matching frame to the request in flight gives a result derived from a
    reply -/
theorem TickCause.reply {r : Req} {res : Res} (hc : TickCause F s r res)
    (hres : res.isReply = true) :
    ∃ m tx dl f s', s.pos = .inflight m r tx dl ∧ pollReader F s m = (.frame f, s')
      ∧ txMatches f tx = true ∧ res = respResult r.req f.pdu := by
  cases hc with
  | noConn q hn ha hp hq => rw [hn] at hres; cases hres
  | dequeue m q ha hp hq hr => rw [dequeueRes_not_reply hr] at hres; cases hres
  | inflight m tx dl ha hp hf =>
    cases hf with
    | timeout hdl => cases hres
    | readErr res hr => rw [pollReader_fail_not_reply F s m res hr] at hres; cases hres
    | frame f hr hmt => exact ⟨m, tx, dl, f, _, hp, Prod.ext hr rfl, hmt, rfl⟩

/-- only the deadline of the request in flight gives a timeout -/
theorem TickCause.timeout {r : Req} (hc : TickCause F s r .timeout) :
    ∃ m tx dl, s.pos = .inflight m r tx dl ∧ dl ≤ s.now := by
  cases hc with
  | noConn q hn ha hp hq => cases hn
  | dequeue m q ha hp hq hr => exact absurd rfl (dequeueRes_ne hr).2.2
  | inflight m tx dl ha hp hf => exact ⟨m, tx, dl, hp, hf.teff.1 rfl⟩

/-- what a script step by itself completes: `shutdown` or a refusal of the request -/
def UserDone (e : LogEntry) : Prop :=
  ∃ rid style res time, e = .done rid style res time ∧ (res = .shutdown ∨ ∃ x, res = .badReq x)

theorem UserDone.res {rid : Rid} {style : Style} {res : Res} {time : Nat}
    (h : UserDone (.done rid style res time)) : res = .shutdown ∨ ∃ x, res = .badReq x := by
  obtain ⟨_, _, _, _, he, hr⟩ := h
  cases he; exact hr

theorem applyStep_done_cause (s : State σ) (st : Step) (e : LogEntry) (he : e.isDone = true)
    (hm : e ∈ (applyStep s st).log) : e ∈ s.log ∨ UserDone e := by
  have hm' : e ∈ (core (applyStep s st)).log := hm
  rcases ueff_new_done (core s) _ (applyStep_eff s st) e he hm' with h | ⟨r, res, h1, h2⟩
  · exact Or.inl h
  · exact Or.inr ⟨r.rid, r.style, res, s.now, h1, h2⟩

theorem runState_done_cause (F : Framing σ) (s : State σ) (steps : List Step) (e : LogEntry)
    (he : e.isDone = true) (hm : e ∈ (runState F s steps).log) :
    e ∈ s.log ∨ UserDone e
      ∨ ∃ s0 ∈ runTrace F s steps, ∃ r res, e = .done r.rid r.style res s0.now
          ∧ TickCause F s0 r res := by
  have hQ : TraceInv F
      (fun tr t => e ∈ t.log → e ∈ s.log ∨ UserDone e
        ∨ ∃ s0 ∈ tr, ∃ r res, e = .done r.rid r.style res s0.now ∧ TickCause F s0 r res) :=
    { tick := fun tr x y h hxy hm => by
        rcases tick_done_cause F x y hxy e he hm with h1 | h1
        · exact (h h1).imp_right (Or.imp_right fun ⟨s0, h2, h3⟩ =>
            ⟨s0, List.mem_append_left _ h2, h3⟩)
        · exact .inr (.inr ⟨x, by simp, h1⟩)
      release := fun _ _ h => h
      clock := fun _ _ _ h => h }
  exact run_traceInv hQ (fun _ => True)
    (fun tr x st _ h hm => (applyStep_done_cause x st e he hm).elim h (fun h' => .inr (.inl h')))
    [] s steps (fun _ _ => trivial) .inl hm

/-- Every completion in the log of a run was produced by a script step itself (the API call refused
    the request or found the task gone: `bad request` / `shutdown`), or by a tick of the task in a
    state of the run, for one of the reasons of `TickCause` (not connected / failed when taken from
    the queue / in flight: deadline reached, matching frame delivered, reader error). -/
theorem completion_cause (F : Framing σ) (cap maxTo : Nat) (d : Decode) (coins : List Bool)
    (steps : List Step) (e : LogEntry) (he : e.isDone = true)
    (h : e ∈ (runState F (State.init F cap maxTo d coins) steps).log) :
    UserDone e ∨ ∃ s0 ∈ runTrace F (State.init F cap maxTo d coins) steps,
      ∃ r res, e = .done r.rid r.style res s0.now ∧ TickCause F s0 r res :=
  (runState_done_cause F _ steps e he h).resolve_left List.not_mem_nil

/-- a state of the trace lies on the abstract path of the run: it is reached from the start, a
    tick is taken in it, and the final state is reached from the result of that tick -/
theorem runTrace_mem (F : Framing σ) (s s0 : State σ) (steps : List Step)
    (h : s0 ∈ runTrace F s steps) :
    Steps (core s) (core s0)
      ∧ ∃ t, tick F s0 = some t ∧ Steps (core t) (core (runState F s steps)) := by
  -- the present state `x` is on the path from `s`, and every state of the trace before it
  let Q : List (State σ) → State σ → Prop := fun tr x =>
    Steps (core s) (core x) ∧ ∀ s0 ∈ tr, Steps (core s) (core s0)
      ∧ ∃ t, tick F s0 = some t ∧ Steps (core t) (core x)
  have ext : ∀ tr x y, Q tr x → Steps (core x) (core y) → Q tr y := fun tr x y h hs =>
    ⟨h.1.trans hs, fun s0 hs0 =>
      let ⟨h1, t, h2, h3⟩ := h.2 s0 hs0
      ⟨h1, t, h2, h3.trans hs⟩⟩
  have hQ : TraceInv F Q :=
    { tick := fun tr x y h hxy => by
        have h' := ext tr x y h (.single (.inl (tick_eff F x y hxy)))
        refine ⟨h'.1, fun s0 hs0 => (List.mem_append.mp hs0).elim (h'.2 s0) (fun hs => ?_)⟩
        rw [List.mem_singleton.mp hs]
        exact ⟨h.1, y, hxy, .refl _⟩
      release := fun _ _ h => h
      clock := fun tr x target h => ext tr x _ h (.single (.inl (moveClock_eff x target))) }
  exact (run_traceInv hQ (fun _ => True)
    (fun tr x st _ h => ext tr x _ h (.single (.inr (applyStep_eff x st)))) [] s steps
    (fun _ _ => trivial) ⟨.refl _, fun _ h => absurd h List.not_mem_nil⟩).2 s0 h

end

theorem runTrace_inflight_sent {σ : Type} (F : Framing σ) (cap maxTo : Nat) (d : Decode)
    (coins : List Bool) (steps : List Step) (s0 : State σ)
    (hs0 : s0 ∈ runTrace F (State.init F cap maxTo d coins) steps) {m : Nat} {r : Req} {tx dl : Nat}
    (hp : s0.pos = .inflight m r tx dl) :
    Reach (core s0) ∧ ∃ bytes, (r.rid, tx, bytes) ∈ s0.sent
      ∧ (r.rid, tx, bytes) ∈ (runState F (State.init F cap maxTo d coins) steps).sent := by
  obtain ⟨hpath, t, ht, hrest⟩ := runTrace_mem F _ s0 steps hs0
  have hreach : Reach (core s0) :=
    reach_steps ⟨maxTo, by rw [← core_init F cap maxTo d coins]; exact .refl _⟩ hpath
  obtain ⟨bytes, hb⟩ := inflightSent_reach _ hreach m r tx dl hp
  exact ⟨hreach, bytes, hb,
    steps_sent_mono hrest _ (teff_sent_mono (tick_eff F s0 t ht) _ hb)⟩

section
variable {σ : Type}

def Enc (r : Req) : Prop := ∃ pdu, encodeRequest r.req = .ok pdu

def InflightEnc (s : State σ) : Prop := ∀ m r tx dl, s.pos = .inflight m r tx dl → Enc r

/-- a request is put in flight by `startRequest` only -/
theorem inflightEnc_blocks (F : Framing σ) : Blocks F (InflightEnc (σ := σ)) where
  poll := fun _ _ h => h
  coins := fun _ _ h => h
  session := fun _ _ _ _ _ _ _ _ hp => by cases hp
  phase := fun _ _ p hp _ m r tx dl e => by subst e; cases hp
  dequeue := fun s m r q t _ hs _ m' r' tx dl e => by
    cases hs with
    | fail y res _ => exact absurd e (finish_pos_not_inflight _ _ _ _ _ _ _ _)
    | sent pdu st' rb' he _ _ => cases e; exact ⟨pdu, he⟩
  take := fun s c q _ _ h m r tx dl e =>
    h m r tx dl ((congrArg Core.pos (core_applySetting { s with queue := q } c)).symm.trans e)
  noConn := fun _ _ _ _ h => h
  endPhase := fun _ _ _ _ _ _ _ hp => by cases hp
  finish := fun s m q res _ _ m' r' tx dl e => absurd e (finish_pos_not_inflight _ _ _ _ _ _ _ _)
  release := fun _ h => h
  clock := fun _ _ h => h

theorem ueff_pos {c c' : Core} (e : UEff c c') : c'.pos = c.pos ∨ c'.pos = .noPhase := by
  cases e with
  | abort ha => exact Or.inr rfl
  | _ => exact Or.inl rfl

theorem inflightEnc_stepInv (F : Framing σ) : StepInv F (InflightEnc (σ := σ)) where
  tick := (inflightEnc_blocks F).taskInv.tick
  release := fun _ h => h
  clock := fun _ _ h => h
  user := by
    intro s st h m r tx dl hp
    rcases ueff_pos (applyStep_eff s st) with h1 | h1
    · exact h m r tx dl (h1.symm.trans hp)
    · cases h1.symm.trans hp

theorem runTrace_inflightEnc (F : Framing σ) (cap maxTo : Nat) (d : Decode) (coins : List Bool)
    (steps : List Step) :
    InflightEnc (runState F (State.init F cap maxTo d coins) steps)
      ∧ ∀ s0 ∈ runTrace F (State.init F cap maxTo d coins) steps, InflightEnc s0 :=
  runTrace_inv (inflightEnc_stepInv F) _ steps (fun _ _ _ _ h => nomatch h)

end

end Rodbus.Client
