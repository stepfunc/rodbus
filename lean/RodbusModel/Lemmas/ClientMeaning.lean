import RodbusModel.Lemmas.ClientInv
/-
  What each completion means (C10 `error_meaning`: `NewDone`, `teff_new_done`, `ueff_new_done`) and
  the timeout counter on an abstract sequence of outcomes (C12 `counter_exact`: `feed`, `Hit`,
  `feed_spec`).
-/
namespace Rodbus.Client

theorem mem_of_done_cons {e e' : LogEntry} {l : List LogEntry} (he : e.isDone = true)
    (he' : e'.isDone = false) (h : e ∈ e' :: l) : e ∈ l := by
  rcases List.mem_cons.mp h with rfl | h
  · rw [he] at he'; cases he'
  · exact h

theorem mem_afterCore_log (c : Core) (m : Nat) (res : Res) (e : LogEntry) (he : e.isDone = true)
    (h : e ∈ (afterCore c m res).log) : e ∈ c.log := by
  obtain ⟨fin, hf, hl⟩ := afterCore_log c m res
  rw [hl] at h
  rcases hf with rfl | ⟨k, rfl⟩
  · exact h
  · exact mem_of_done_cons he rfl h

/-- the circumstances in which the task itself completes request `r` with `res` -/
inductive NewDone (c c' : Core) (r : Req) (res : Res) : Prop
  | noConn (q : List Cmd) : res = .noConn → c.alive = true →
      (c.pos = .waitEnabled ∨ ∃ dl b, c.pos = .failFor dl b) → c.queue = .req r :: q →
      NewDone c c' r res
  | dequeue (m : Nat) (q : List Cmd) : c.alive = true → c.pos = .idle m →
      c.queue = .req r :: q → DequeueRes res →
      (∀ k, res.sessionEnd = some k → c'.pos = .noPhase ∧ LogEntry.fin k c.now ∈ c'.log) →
      NewDone c c' r res
  | finish (m : Nat) (tx dl : Nat) : c.alive = true →
      c.pos = .inflight m r tx dl → (res = .timeout → dl ≤ c.now) → res ≠ .noConn →
      res ≠ .shutdown →
      (∀ k, res.sessionEnd = some k → c'.pos = .noPhase ∧ LogEntry.fin k c.now ∈ c'.log) →
      NewDone c c' r res

theorem dequeueRes_ne {res : Res} (h : DequeueRes res) :
    res ≠ .noConn ∧ res ≠ .shutdown ∧ res ≠ .timeout := by
  rcases h with ⟨e, rfl⟩ | rfl | ⟨e, rfl⟩
  · simp
  · simp
  · exact frameErrRes_ne e

theorem teff_new_done (c c' : Core) (t : TEff c c') (e : LogEntry) (he : e.isDone = true)
    (h : e ∈ c'.log) : e ∈ c.log ∨ ∃ r res, e = doneEntry c r res ∧ NewDone c c' r res := by
  -- the session error of the result ends the phase in the same step
  have ends : ∀ (c0 : Core) (m : Nat) (res : Res) (k : EndKind), c0.now = c.now →
      res.sessionEnd = some k →
      (afterCore c0 m res).pos = .noPhase ∧ LogEntry.fin k c.now ∈ (afterCore c0 m res).log := by
    intro c0 m res k hnow hk
    rw [afterCore_sessionEnd c0 m hk, ← hnow]
    exact ⟨rfl, List.mem_cons_self⟩
  cases t with
  | phaseEnd k ha hi hn => exact .inl (mem_of_done_cons he rfl h)
  | phaseEndCmd k x q ha hi hn hq hx => exact .inl (mem_of_done_cons he rfl h)
  | noConn r q ha hp hq =>
    rcases List.mem_cons.mp h with rfl | h
    · exact .inr ⟨r, _, rfl, .noConn q rfl ha hp hq⟩
    · exact .inl h
  | send m r q bytes logged ha hp hq =>
    cases logged
    · exact .inl h
    · exact .inl (mem_of_done_cons he rfl h)
  | dequeueFail m r q res ha hp hq hres =>
    rcases List.mem_cons.mp (mem_afterCore_log _ m res e he h) with rfl | h
    · exact .inr ⟨r, res, rfl, .dequeue m q ha hp hq hres (fun k => ends _ m res k rfl)⟩
    · exact .inl h
  | finish m r tx dl res ha hp ht h3 h4 =>
    rcases List.mem_cons.mp (mem_afterCore_log _ m res e he h) with rfl | h
    · exact .inr ⟨r, res, rfl, .finish m tx dl ha hp ht h3 h4 (fun k => ends _ m res k rfl)⟩
    · exact .inl h
  | _ => exact .inl h

theorem ueff_new_done (c c' : Core) (t : UEff c c') (e : LogEntry) (he : e.isDone = true)
    (h : e ∈ c'.log) :
    e ∈ c.log ∨ ∃ r res, e = doneEntry c r res ∧ (res = .shutdown ∨ ∃ x, res = .badReq x) := by
  cases t with
  | note e' he' => exact .inl (mem_of_done_cons he he' h)
  | acceptDone r res extra hex hres =>
    simp only [List.mem_append, List.mem_cons] at h
    rcases h with h | rfl | h
    · rw [hex e h] at he; cases he
    · exact Or.inr ⟨r, res, rfl, hres⟩
    · exact Or.inl h
  | abort ha =>
    simp only [List.mem_append] at h
    rcases h with h | h
    · unfold shutdownEntries at h
      simp only [List.mem_reverse, List.mem_map] at h
      obtain ⟨r, _, rfl⟩ := h
      exact Or.inr ⟨r, .shutdown, rfl, Or.inl rfl⟩
    · exact Or.inl h
  | _ => exact .inl h


/-- the outcomes of the consecutive requests of one session, fed to the bookkeeping of
    `run_one_request`; once the session is over nothing more is processed -/
def feed (m : Nat) (c : Core) : List Res → Core
  | [] => c
  | r :: rs => if c.pos = .idle m then feed m (afterCore c m r) rs else c

/-- number of timeouts at the end of a sequence of outcomes -/
def trailing (rs : List Res) : Nat := (rs.reverse.takeWhile (fun r => decide (r = .timeout))).length

theorem trailing_snoc (rs : List Res) (r : Res) :
    trailing (rs ++ [r]) = if r = .timeout then trailing rs + 1 else 0 := by
  unfold trailing
  simp only [List.reverse_append, List.reverse_cons, List.reverse_nil, List.nil_append,
    List.singleton_append, List.takeWhile_cons]
  split <;> simp_all

theorem trailing_nil : trailing [] = 0 := rfl

theorem feed_stuck (m : Nat) (c : Core) (rs : List Res) (h : c.pos ≠ .idle m) : feed m c rs = c := by
  cases rs with
  | nil => rfl
  | cons r rs => simp [feed, h]

theorem feed_snoc (m : Nat) (c : Core) (rs : List Res) (r : Res) :
    feed m c (rs ++ [r])
      = if (feed m c rs).pos = .idle m then afterCore (feed m c rs) m r else feed m c rs := by
  induction rs generalizing c with
  | nil => by_cases h : c.pos = .idle m <;> simp [feed, h]
  | cons a rs ih =>
    simp only [List.cons_append, feed]
    split
    · exact ih _
    · rfl

theorem snoc_induction {α : Type} {P : List α → Prop} (hnil : P [])
    (hsnoc : ∀ l a, P l → P (l ++ [a])) (l : List α) : P l := by
  have : ∀ l : List α, P l.reverse := by
    intro l
    induction l with
    | nil => exact hnil
    | cons a l ih => rw [List.reverse_cons]; exact hsnoc _ a ih
  have h := this l.reverse
  rwa [List.reverse_reverse] at h

/-- after `j` outcomes the last `N` were timeouts, for some `j` -/
def Hit (N : Nat) (rs : List Res) : Prop := ∃ j, j ≤ rs.length ∧ N ≤ trailing (rs.take j)

theorem hit_of_trailing {N : Nat} {rs : List Res} (h : N ≤ trailing rs) : Hit N rs :=
  ⟨rs.length, Nat.le_refl _, by rwa [List.take_length]⟩

theorem hit_snoc (N : Nat) (rs : List Res) (r : Res) :
    Hit N (rs ++ [r]) ↔ Hit N rs ∨ N ≤ trailing (rs ++ [r]) := by
  constructor
  · rintro ⟨j, hj, ht⟩
    by_cases hjl : j ≤ rs.length
    · left; exact ⟨j, hjl, by rwa [List.take_append_of_le_length hjl] at ht⟩
    · right
      have : j = (rs ++ [r]).length := by simp at hj ⊢; omega
      rw [this, List.take_length] at ht; exact ht
  · rintro (⟨j, hj, ht⟩ | h)
    · exact ⟨j, by simp; omega, by rwa [List.take_append_of_le_length hj]⟩
    · exact hit_of_trailing h

theorem nohit_nil {N : Nat} (hN : 1 ≤ N) : ¬ Hit N [] := by
  rintro ⟨j, hj, h⟩
  simp at hj; subst hj
  simp [trailing_nil] at h; omega

theorem nohit_snoc_other {N : Nat} {cur : List Res} {res : Res} (hN : 1 ≤ N)
    (hr : res ≠ .timeout) (hno : ¬ Hit N cur) : ¬ Hit N (cur ++ [res]) := by
  rw [hit_snoc, trailing_snoc, if_neg hr]
  rintro (h | h)
  · exact hno h
  · omega

theorem nohit_snoc_timeout {N : Nat} {cur : List Res} (hno : ¬ Hit N cur)
    (hlt : trailing cur + 1 < N) : ¬ Hit N (cur ++ [.timeout]) := by
  rw [hit_snoc, trailing_snoc, if_pos rfl]
  rintro (h | h)
  · exact hno h
  · omega

/-- one more outcome `res` (not a session error) after the outcomes `rs` of a session with limit
    `N` (`0`: none) that has not been hit, the counter holding `trailing rs`: either `res` is the
    timeout that reaches the limit and the phase ends with `MaxTimeouts`, or the session goes on,
    the limit still not hit, the counter holding `trailing (rs ++ [res])` -/
theorem counter_step {N : Nat} {c : Core} (hm : c.maxTo = N) {rs : List Res}
    (hno : 1 ≤ N → ¬ Hit N rs) (hn : 1 ≤ N → c.nto = trailing rs) (m : Nat) {res : Res}
    (hr : res.sessionEnd = none) :
    (1 ≤ N ∧ res = .timeout ∧ N ≤ trailing rs + 1
        ∧ afterCore c m res = { c with nto := c.nto + 1, log := .fin (.maxTo N) c.now :: c.log,
                                       pos := .noPhase })
      ∨ ((1 ≤ N → ¬ Hit N (rs ++ [res]))
          ∧ ∃ n, (1 ≤ N → n = trailing (rs ++ [res]))
            ∧ afterCore c m res = { c with nto := n, pos := .idle m }) := by
  rcases afterCore_cases c m res with ⟨k, hk, _⟩ | ⟨_, h0, he⟩ | ⟨rfl, h0, h1, he⟩
      | ⟨rfl, h0, h1, he⟩ | ⟨_, ht, he⟩
  · rw [hr] at hk; cases hk
  · have hN : ¬ 1 ≤ N := by omega
    exact .inr ⟨fun h => absurd h hN, c.nto, fun h => absurd h hN, he⟩
  · have hN : 1 ≤ N := by omega
    exact .inl ⟨hN, rfl, by have := hn hN; omega, by rw [he, hm]⟩
  · have hN : 1 ≤ N := by omega
    have hc := hn hN
    exact .inr ⟨fun _ => nohit_snoc_timeout (hno hN) (by omega), _,
      fun _ => by rw [trailing_snoc, if_pos rfl, hc], he⟩
  · exact .inr ⟨fun h => nohit_snoc_other h ht (hno h), 0,
      fun _ => by rw [trailing_snoc, if_neg ht], he⟩

/-- the state of the counter as a function of the outcomes so far, for a limit `N` (`0`: none):
    the session is over iff the limit has been hit; until then the counter holds the number of
    timeouts at the end of the outcomes -/
theorem feed_spec (m N : Nat) (c : Core) (hp : c.pos = .idle m) (hn : 1 ≤ N → c.nto = 0)
    (hm : c.maxTo = N) (rs : List Res) (hrs : ∀ r ∈ rs, r.sessionEnd = none) :
    (1 ≤ N → Hit N rs → (feed m c rs).pos = .noPhase)
      ∧ ((1 ≤ N → ¬ Hit N rs) →
          (feed m c rs).pos = .idle m ∧ (1 ≤ N → (feed m c rs).nto = trailing rs))
      ∧ (feed m c rs).maxTo = N := by
  induction rs using snoc_induction with
  | hnil => exact ⟨fun hN h => absurd h (nohit_nil hN), fun _ => ⟨hp, hn⟩, hm⟩
  | hsnoc rs r ih =>
    obtain ⟨ih1, ih2, ih3⟩ := ih (fun x hx => hrs x (by simp [hx]))
    rw [feed_snoc]
    by_cases hh : 1 ≤ N ∧ Hit N rs
    · have hpos := ih1 hh.1 hh.2
      rw [if_neg (by rw [hpos]; simp)]
      exact ⟨fun _ _ => hpos, fun hno => absurd ((hit_snoc N rs r).mpr (.inl hh.2)) (hno hh.1), ih3⟩
    · have hno : 1 ≤ N → ¬ Hit N rs := fun hN h => hh ⟨hN, h⟩
      obtain ⟨hpos, hnto⟩ := ih2 hno
      rw [if_pos hpos]
      rcases counter_step ih3 hno hnto m (hrs r (by simp)) with ⟨hN, rfl, hlim, he⟩
          | ⟨hno', n, hn', he⟩ <;> rw [he]
      · have hit : Hit N (rs ++ [.timeout]) :=
          hit_of_trailing (by rw [trailing_snoc, if_pos rfl]; exact hlim)
        exact ⟨fun _ _ => rfl, fun h => absurd hit (h hN), ih3⟩
      · exact ⟨fun hN h => absurd h (hno' hN), fun _ => ⟨rfl, hn'⟩, ih3⟩


theorem txMatches_false_iff (f : Frame) (tx : Nat) :
    txMatches f tx = false ↔ ∃ t, f.tx = some t ∧ t ≠ tx := by
  unfold txMatches
  cases f.tx with
  | none => simp
  | some t => simp

section
variable {σ : Type}

theorem inflightReader_mismatch (s : State σ) (m : Nat) (q : Req) (tx : Nat) (f : Frame)
    (h : txMatches f tx = false) : inflightReader s m q tx (.frame f) = s := by
  simp [inflightReader, h]

theorem idleReader_frame (s : State σ) (f : Frame) : idleReader s (.frame f) = s := rfl

end

end Rodbus.Client
