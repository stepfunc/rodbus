import RodbusModel.Lemmas.ClientOps
/-
  One tick of the client task as a relation on states.

  `Tick F s t` lists what `tick F s = some t` can be: each constructor gives `t` as the primitive
  updaters applied to a state `x` that is `s` up to what precedes the control decision (`Pre`: a
  coin of `select!` consumed, the reader polled), with the guards that chose it as far as a
  property of every tick needs them (no converse is claimed; what `tick` computes on a given state
  is said by the equations of Lemmas/ClientOps).  `tick_cases` is the one walk over `tick`,
  `tickIdle`, … that the statements about one state share: whatever holds of every tick (its effect
  on the abstract view, a measure, a log invariant, the cause of a completion) is one `cases` on
  `Tick`.
-/
namespace Rodbus.Client

section
variable {σ : Type}

/-- a session is running on transport `m` -/
def OnTransport (p : Pos) (m : Nat) : Prop := p = .idle m ∨ ∃ q tx dl, p = .inflight m q tx dl

/-- a coin of `select!` may have been consumed -/
inductive Coin (s : State σ) : State σ → Prop
  | same : Coin s s
  | flip : Coin s (flip s).2

theorem Coin.writes {s y : State σ} (h : Coin s y) : ∃ cs, y = { s with coins := cs } := by
  cases h with
  | same => exact ⟨_, rfl⟩
  | flip => exact flip_writes s

/-- what precedes the control decision of a tick: a coin may have been consumed, then the reader of
    the running session polled -/
inductive Pre (F : Framing σ) (s : State σ) : State σ → Prop
  | unpolled {y : State σ} : Coin s y → Pre F s y
  | polled {m : Nat} {y : State σ} : OnTransport s.pos m → Coin s y → Pre F s (pollReader F y m).2

theorem Pre.writes {F : Framing σ} {s x : State σ} (h : Pre F s x) :
    ∃ st rb mocks cs, x = { s with pst := st, rb := rb, mocks := mocks, coins := cs } := by
  cases h with
  | unpolled hy => obtain ⟨cs, rfl⟩ := hy.writes; exact ⟨_, _, _, cs, rfl⟩
  | @polled m _ _ hy =>
    obtain ⟨cs, rfl⟩ := hy.writes
    obtain ⟨st, rb, mk, hw⟩ := pollReader_writes F { s with coins := cs } m
    rw [hw]; exact ⟨_, _, _, _, rfl⟩

inductive FinishCause (F : Framing σ) (s : State σ) (m : Nat) (q : Req) (tx dl : Nat) : Res → Prop
  | timeout : dl ≤ s.now → FinishCause F s m q tx dl .timeout
  | frame (f : Frame) : (pollReader F s m).1 = .frame f → txMatches f tx = true →
      FinishCause F s m q tx dl (respResult q.req f.pdu)
  | readErr (res : Res) : (pollReader F s m).1 = .fail res → FinishCause F s m q tx dl res

inductive Tick (F : Framing σ) (s : State σ) : State σ → Prop
  | startSession (m : Nat) (ps : List Phase) : s.pos = .noPhase → s.phases = .session m :: ps →
      Tick F s { s with phases := ps, pos := .idle m, nto := 0, pst := F.init, rb := RB.empty }
  | startWait (ps : List Phase) : s.pos = .noPhase → s.phases = .waitEnabled :: ps →
      Tick F s { s with phases := ps, pos := .waitEnabled }
  | startFail (ms : Nat) (ps : List Phase) : s.pos = .noPhase → s.phases = .failFor ms :: ps →
      Tick F s { s with phases := ps, pos := .failFor (s.now + ms) false }
  | commit (dl : Nat) : s.pos = .failFor dl false →
      Tick F s { (flip s).2 with pos := .failFor dl true }
  /-- only the reader makes progress: it blocks after having read something, or delivers a frame
      that is dropped (idle) or skipped (other transaction id), or an error that does not end the
      session (what it delivers does not depend on the coin: it is said at `s`) -/
  | reader (m : Nat) (y : State σ) : OnTransport s.pos m → Coin s y →
      ((pollReader F s m).1 = .blocked → (getMock s m).rx ≠ []) →
      (∀ res, (pollReader F s m).1 = .fail res → res.sessionEnd = none) →
      Tick F s (pollReader F y m).2
  /-- the phase ends without a command having been taken -/
  | phaseEnd (x : State σ) (k : EndKind) : Pre F s x → s.pos ≠ .noPhase →
      inflightIds s.pos = [] → (∀ n, k ≠ .maxTo n) → Tick F s (endPhase x k)
  /-- the phase ends on a setting or on the shutdown command -/
  | phaseEndCmd (x : State σ) (c : Cmd) (q : List Cmd) (k : EndKind) : Pre F s x →
      s.pos ≠ .noPhase → inflightIds s.pos = [] → x.queue = c :: q → c.isReq = false →
      (∀ n, k ≠ .maxTo n) → Tick F s (endPhase (applySetting { x with queue := q } c) k)
  | setting (x : State σ) (c : Cmd) (q : List Cmd) : Pre F s x → s.pos ≠ .noPhase →
      inflightIds s.pos = [] → x.queue = c :: q → c.isReq = false →
      Tick F s (applySetting { x with queue := q } c)
  /-- `fail_next_request` -/
  | noConn (r : Req) (q : List Cmd) : (s.pos = .waitEnabled ∨ ∃ dl b, s.pos = .failFor dl b) →
      s.queue = .req r :: q → Tick F s (complete { s with queue := q } r .noConn)
  /-- a request is taken from the queue: `t` is `startRequest F { x with queue := q } m r` -/
  | request (m : Nat) (x : State σ) (r : Req) (q : List Cmd) (t : State σ) : s.pos = .idle m →
      Pre F s x → x.queue = .req r :: q → Started F { x with queue := q } m r t → Tick F s t
  /-- the request in flight completes -/
  | finish (m : Nat) (q : Req) (tx dl : Nat) (x : State σ) (res : Res) :
      s.pos = .inflight m q tx dl → Pre F s x → FinishCause F s m q tx dl res →
      Tick F s (finish x m q res)

variable {F : Framing σ} {s x t : State σ} {m : Nat}

/-- a command that is not a request is taken in a session (`runCmd` is `failCmd` on it) or in
    `fail_requests_for` -/
theorem failCmd_tick (hx : Pre F s x) (hn : s.pos ≠ .noPhase) (hi : inflightIds s.pos = [])
    {c : Cmd} {q : List Cmd} (hq : x.queue = c :: q) (hc : c.isReq = false) :
    Tick F s (failCmd { x with queue := q } c) := by
  cases c with
  | req r => cases hc
  | shutdown => exact .phaseEndCmd x .shutdown q .shutdown hx hn hi hq rfl (by simp)
  | _ =>
    simp only [failCmd]
    split
    · exact .setting x _ q hx hn hi hq rfl
    · exact .phaseEndCmd x _ q .disabled hx hn hi hq rfl (by simp)

theorem sessionRecv_tick (hx : Pre F s x) (hp : s.pos = .idle m)
    (h : sessionRecv F x m = some t) : Tick F s t := by
  have hn : s.pos ≠ .noPhase := by rw [hp]; simp
  have hi : inflightIds s.pos = [] := by rw [hp]; rfl
  unfold sessionRecv at h
  split at h
  · rename_i c q hq
    cases h
    cases c with
    | req r => exact .request m x r q _ hp hx hq (startRequest_started F _ m r)
    | _ => exact failCmd_tick hx hn hi hq rfl
  · split at h
    · cases h; exact .phaseEnd x .shutdown hx hn hi (by simp)
    · cases h

theorem idleReader_tick {y : State σ} (hy : Coin s y) (hp : s.pos = .idle m) {r : ReadRes}
    (hr : (pollReader F s m).1 = r) (hb : r ≠ .blocked) :
    Tick F s (idleReader (pollReader F y m).2 r) := by
  have quiet : (∀ res, r = .fail res → res.sessionEnd = none) → Tick F s (pollReader F y m).2 :=
    fun hf => .reader m y (.inl hp) hy (fun h => absurd (hr ▸ h) hb) (fun res h => hf res (hr ▸ h))
  unfold idleReader
  split
  · split
    · rename_i k hk
      exact .phaseEnd _ k (.polled (.inl hp) hy) (by rw [hp]; simp) (by rw [hp]; rfl)
        (Res.sessionEnd_ne_maxTo hk)
    · rename_i res hk; exact quiet (fun res' h => by cases h; exact hk)
  · rename_i hnf; exact quiet (fun res h => absurd h (hnf res))

theorem tickIdle_tick (hp : s.pos = .idle m) (h : tickIdle F s m = some t) : Tick F s t := by
  rw [tickIdle_eq] at h
  split at h
  · rename_i hr
    split at h
    · rename_i t' ht; cases h; exact sessionRecv_tick (.polled (.inl hp) .same) hp ht
    · split at h
      · rename_i hrx
        cases h
        refine .reader m _ (.inl hp) .same (fun _ he => ?_) (fun res he => by rw [hr] at he; cases he)
        rw [he] at hrx; simp at hrx
      · cases h
  · rename_i r hb
    have hb' : (pollReader F s m).1 ≠ .blocked := hb
    split at h
    · split at h
      · cases h; exact idleReader_tick .flip hp rfl hb'
      · exact sessionRecv_tick (.unpolled .flip) hp h
    · cases h; exact idleReader_tick .same hp rfl hb'

theorem inflightReader_tick {y : State σ} (hy : Coin s y) {q : Req} {tx dl : Nat}
    (hp : s.pos = .inflight m q tx dl) {r : ReadRes} (hr : (pollReader F s m).1 = r)
    (hb : r ≠ .blocked) : Tick F s (inflightReader (pollReader F y m).2 m q tx r) := by
  have ho : OnTransport s.pos m := .inr ⟨q, tx, dl, hp⟩
  unfold inflightReader
  split
  · rename_i f
    split
    · rename_i hm; exact .finish m q tx dl _ _ hp (.polled ho hy) (.frame f hr hm)
    · exact .reader m y ho hy (fun h => by rw [hr] at h; cases h)
        (fun res h => by rw [hr] at h; cases h)
  · rename_i res; exact .finish m q tx dl _ res hp (.polled ho hy) (.readErr res hr)
  · exact absurd rfl hb

theorem tickInflight_tick {q : Req} {tx dl : Nat} (hp : s.pos = .inflight m q tx dl)
    (h : tickInflight F s m q tx dl = some t) : Tick F s t := by
  have ho : OnTransport s.pos m := .inr ⟨q, tx, dl, hp⟩
  rw [tickInflight_eq] at h
  split at h
  · rename_i hr
    split at h
    · rename_i hexp; cases h
      exact .finish m q tx dl _ _ hp (.polled ho .same) (.timeout (by simpa using hexp))
    · split at h
      · rename_i hrx
        cases h
        refine .reader m _ ho .same (fun _ he => ?_) (fun res he => by rw [hr] at he; cases he)
        rw [he] at hrx; simp at hrx
      · cases h
  · rename_i r hb
    have hb' : (pollReader F s m).1 ≠ .blocked := hb
    split at h
    · rename_i hexp
      split at h
      · cases h; exact .finish m q tx dl _ _ hp (.unpolled .flip) (.timeout (by simpa using hexp))
      · cases h; exact inflightReader_tick .flip hp rfl hb'
    · cases h; exact inflightReader_tick .same hp rfl hb'

theorem tickWait_tick (hp : s.pos = .waitEnabled) (h : tickWait s = some t) : Tick F s t := by
  have hn : s.pos ≠ .noPhase := by rw [hp]; simp
  have hi : inflightIds s.pos = [] := by rw [hp]; rfl
  unfold tickWait at h
  split at h
  · cases h; exact .phaseEnd s .enabled (.unpolled .same) hn hi (by simp)
  · split at h
    · rename_i c q hq
      cases h
      cases c with
      | req r => exact .noConn r q (.inl hp) hq
      | shutdown => exact .phaseEndCmd s .shutdown q .shutdown (.unpolled .same) hn hi hq rfl (by simp)
      | _ => exact .setting s _ q (.unpolled .same) hn hi hq rfl
    · split at h
      · cases h; exact .phaseEnd s .shutdown (.unpolled .same) hn hi (by simp)
      · cases h

theorem tickFail_tick {dl : Nat} {b : Bool} (hp : s.pos = .failFor dl b)
    (h : tickFail s dl b = some t) : Tick F s t := by
  have hn : s.pos ≠ .noPhase := by rw [hp]; simp
  have hi : inflightIds s.pos = [] := by rw [hp]; rfl
  rw [tickFail_eq] at h
  by_cases hc : (decide (s.now ≥ dl) && !b) = true
  · rw [if_pos hc] at h
    have hb : b = false := by cases b <;> simp at hc ⊢
    subst hb
    split at h
    · split at h
      · cases h; exact .phaseEnd _ .elapsed (.unpolled .flip) hn hi (by simp)
      · cases h; exact .commit dl hp
    · cases h; exact .phaseEnd s .elapsed (.unpolled .same) hn hi (by simp)
  · rw [if_neg hc] at h
    split at h
    · rename_i c q hq
      cases h
      cases c with
      | req r => exact .noConn r q (.inr ⟨dl, b, hp⟩) hq
      | _ => exact failCmd_tick (.unpolled .same) hn hi hq rfl
    · split at h
      · cases h; exact .phaseEnd s .shutdown (.unpolled .same) hn hi (by simp)
      · split at h
        · cases h; exact .phaseEnd s .elapsed (.unpolled .same) hn hi (by simp)
        · cases h

theorem startPhase_tick (hp : s.pos = .noPhase) (h : startPhase F s = some t) : Tick F s t := by
  unfold startPhase at h
  split at h
  · cases h
  · rename_i m ps hph; cases h; exact .startSession m ps hp hph
  · rename_i ps hph; cases h; exact .startWait ps hp hph
  · rename_i ms ps hph; cases h; exact .startFail ms ps hp hph

theorem tick_cases (h : tick F s = some t) : s.alive = true ∧ Tick F s t := by
  have ha : s.alive = true := by
    cases ha : s.alive
    · simp [tick, ha] at h
    · rfl
  refine ⟨ha, ?_⟩
  rw [tick_alive F s ha] at h
  split at h
  · rename_i hp; exact startPhase_tick hp h
  · rename_i m hp; exact tickIdle_tick hp h
  · rename_i m q tx dl hp; exact tickInflight_tick hp h
  · rename_i hp; exact tickWait_tick hp h
  · rename_i dl c hp; exact tickFail_tick hp h

end

end Rodbus.Client
