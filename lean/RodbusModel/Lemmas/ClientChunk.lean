import RodbusModel.Lemmas.ClientSettle
/-
  Chunking independence in the client role (C05 / C06 for the client task): one delivery `a ++ b`
  of the transport against the two deliveries `a`, `b`.  On top of the reader's `readerPoll_split`
  (Lemmas/ClientReader) come one tick, `tick_deliver`: what the task does with a delivery when it
  is quiet (`QuietRx`), and the step, `rx_split`: `stepState` of the two deliveries = `stepState` of
  the joint one (the fuel of `settled` is irrelevant: `settle_fuel_irrelevant`).
-/
namespace Rodbus.Client

section
variable {σ : Type}

def polled (F : Framing σ) (u : State σ) (c : Bytes) : ReadRes × σ × RB × List Rx :=
  readerPoll F (readerFuel [.data c]) u.pst u.rb [.data c]

/-- the state after the reader has been polled on the delivery `c` to transport `m` -/
def deliverState (F : Framing σ) (u : State σ) (m : Nat) (c : Bytes) : State σ :=
  setMock { u with pst := (polled F u c).2.1, rb := (polled F u c).2.2.1 } m
    { getMock u m with rx := (polled F u c).2.2.2 }

theorem pollReader_deliver (F : Framing σ) (u : State σ) (m : Nat) (hm : m + 1 = u.mocks.length)
    (hrx : (getMock u m).rx = []) (c : Bytes) :
    pollReader F (pushRx u (.data c)) m = ((polled F u c).1, deliverState F u m c) := by
  rw [pushRx_latest u m hm, hrx]
  unfold pollReader deliverState polled
  simp only [getMock_setMock u m _ (Nat.lt_of_succ_le (Nat.le_of_eq hm)), List.nil_append]
  show (_, setMock (setMock { u with pst := _, rb := _ } m _) m _) = _
  rw [setMock_setMock]
  rfl

/-- the task is quiet: alive, in a session on the newest transport `m` with nothing unread, and
    either idle with an empty queue that still has a sender, or waiting for a reply before its
    deadline -/
def QuietRx (u : State σ) (m : Nat) : Prop :=
  u.alive = true ∧ m + 1 = u.mocks.length ∧ (getMock u m).rx = []
    ∧ ((u.pos = .idle m ∧ u.queue = [] ∧ closed u = false)
        ∨ ∃ q tx dl, u.pos = .inflight m q tx dl ∧ u.now < dl)

def afterDeliver (F : Framing σ) (u : State σ) (m : Nat) (c : Bytes) : State σ :=
  match u.pos with
  | .idle _ => idleReader (deliverState F u m c) (polled F u c).1
  | .inflight _ q tx _ => inflightReader (deliverState F u m c) m q tx (polled F u c).1
  | _ => deliverState F u m c

/-- a quiet task that is offered a delivery has only its reader branch ready: whatever the reader
    yields is handled, no coin is consumed -/
theorem tick_deliver (F : Framing σ) (u : State σ) (m : Nat) (hq : QuietRx u m) (c : Bytes) :
    tick F (pushRx u (.data c)) = some (afterDeliver F u m c) := by
  obtain ⟨ha, hm, hrx, hpos⟩ := hq
  have hpr := pollReader_deliver F u m hm hrx c
  have hv := pushRx_latest u m hm (.data c)
  generalize pushRx u (.data c) = v at hpr hv
  have hvrx : (!(getMock v m).rx.isEmpty) = true := by
    rw [hv, getMock_setMock u m _ (Nat.lt_of_succ_le (Nat.le_of_eq hm)), hrx]; rfl
  have hd : deliverState F u m c = (pollReader F v m).2 := by rw [hpr]
  have hr : (polled F u c).1 = (pollReader F v m).1 := by rw [hpr]
  unfold afterDeliver
  rw [hd, hr]
  rcases hpos with ⟨hp, hqu, hcl⟩ | ⟨q, tx, dl, hp, hnow⟩
  · have hrecv : recvReady v = false := (recvReady_eq_false v).mpr (by rw [hv]; exact ⟨hqu, hcl⟩)
    have hsess : sessionRecv F (pollReader F v m).2 m = none :=
      (sessionRecv_eq_none F _ m).mpr (by rw [hpr]; exact ⟨hqu, hcl⟩)
    rw [tick_eq_tickIdle F v m (by rw [hv]; exact ha) (by rw [hv]; exact hp), tickIdle_eq, hsess,
      hrecv, hvrx, hp]
    cases (pollReader F v m).1 <;> rfl
  · have hexp : decide (v.now ≥ dl) = false := by rw [hv]; exact decide_eq_false (Nat.not_le.mpr hnow)
    rw [tick_eq_tickInflight F v m q tx dl (by rw [hv]; exact ha) (by rw [hv]; exact hp),
      tickInflight_eq, hexp, hvrx, hp]
    cases (pollReader F v m).1 <;> rfl

theorem tick_quiet_none (F : Framing σ) (u : State σ) (m : Nat) (hq : QuietRx u m)
    (hst : F.parse u.pst u.rb = (.none, u.pst, u.rb)) : tick F u = none := by
  obtain ⟨ha, _, hrx, hpos⟩ := hq
  have hb : (pollReader F u m).1 = .blocked := by
    rw [pollReader_fst, hrx, readerPoll_blocked F _ _ _ hst]
  rw [tick_eq_none F u ha]
  rcases hpos with ⟨hp, hqu⟩ | ⟨q, tx, dl, hp, hnow⟩ <;> rw [hp]
  · exact ⟨hb, hrx, hqu⟩
  · exact ⟨hb, hrx, hnow⟩

theorem quiet_of_blocked (F : Framing σ) (u : State σ) (m : Nat) (ha : u.alive = true)
    (hm : m + 1 = u.mocks.length) (hb : tick F u = none)
    (hpos : u.pos = .idle m ∨ ∃ q tx dl, u.pos = .inflight m q tx dl) : QuietRx u m := by
  rw [tick_eq_none F u ha] at hb
  rcases hpos with hp | ⟨q, tx, dl, hp⟩ <;> rw [hp] at hb
  · exact ⟨ha, hm, hb.2.1, .inl ⟨hp, hb.2.2⟩⟩
  · exact ⟨ha, hm, hb.2.1, .inr ⟨q, tx, dl, hp, hb.2.2⟩⟩

theorem step_prefix (F : Framing σ) (hH : HopInv F) (u : State σ) (m : Nat)
    (hq : QuietRx u m) (hu : u.held = 0) (a : Bytes) (ha : a ≠ [])
    (hfit : u.rb.begin + u.rb.data.length + a.length ≤ CAP) (st1 : σ) (rb1 : RB)
    (hmid : readerPoll F (readerFuel [.data a]) u.pst u.rb [.data a] = (.blocked, st1, rb1, [])) :
    stepState F u (.rx (.data a)) = { u with pst := st1, rb := rb1 } := by
  obtain ⟨_, _, _, _, _, _, hstable, _⟩ := readerPoll_mid F hH u.pst u.rb a ha hfit st1 rb1 hmid
  have hpolled : polled F u a = (.blocked, st1, rb1, []) := hmid
  have hds : deliverState F u m a = { u with pst := st1, rb := rb1 } := by
    unfold deliverState
    rw [hpolled]
    have hk : ({ getMock u m with rx := [] } : Mock) = getMock u m := by
      rw [← hq.2.2.1]
    simp only [hk]
    exact setMock_getMock ({ u with pst := st1, rb := rb1 } : State σ) m
      (Nat.lt_of_succ_le (Nat.le_of_eq hq.2.1))
  have htick1 := tick_deliver F u m hq a
  have hafter : afterDeliver F u m a = { u with pst := st1, rb := rb1 } := by
    unfold afterDeliver
    rw [hpolled, hds]
    rcases hq.2.2.2 with ⟨hp, _, _⟩ | ⟨q, tx, dl, hp, _⟩ <;> rw [hp] <;> rfl
  rw [hafter] at htick1
  have htick2 : tick F ({ u with pst := st1, rb := rb1 } : State σ) = none :=
    tick_quiet_none F _ m hq hstable
  show settled F (pushRx u (.data a)) = _
  rw [settled_of_tick F _ _ htick1, settle_blocked F _ _ ⟨htick2, hu⟩]

/-- For a quiet task (see `QuietRx`): if the delivery `a` alone leaves the reader blocked with bytes
    still buffered, and `a ++ b` fits behind what is buffered, then delivering `a` and then `b` (the
    tasks run until they block after each) leads to the SAME STATE as delivering `a ++ b` at once. -/
theorem rx_split (F : Framing σ) (w : σ → Nat) (hw : ParseMeasure F w) (hwb : ∀ st, w st ≤ 11)
    (hH : HopInv F) (u : State σ) (m : Nat) (hq : QuietRx u m) (hu : u.held = 0) (a b : Bytes)
    (ha : a ≠ []) (hb : b ≠ [])
    (hfit : u.rb.begin + u.rb.data.length + a.length + b.length ≤ CAP) (st1 : σ) (rb1 : RB)
    (hmid : readerPoll F (readerFuel [.data a]) u.pst u.rb [.data a] = (.blocked, st1, rb1, []))
    (hne : rb1.data ≠ []) :
    stepState F (stepState F u (.rx (.data a))) (.rx (.data b))
      = stepState F u (.rx (.data (a ++ b))) := by
  rw [step_prefix F hH u m hq hu a ha (by omega) st1 rb1 hmid]
  have hsplit := readerPoll_split F hH u.pst u.rb a b ha hb hfit st1 rb1 hmid hne
  have hq1 : QuietRx ({ u with pst := st1, rb := rb1 } : State σ) m := hq
  have ht1 := tick_deliver F _ m hq1 b
  have ht2 := tick_deliver F u m hq (a ++ b)
  have hpol : polled F ({ u with pst := st1, rb := rb1 } : State σ) b = polled F u (a ++ b) :=
    hsplit.symm
  have hafter : afterDeliver F ({ u with pst := st1, rb := rb1 } : State σ) m b
      = afterDeliver F u m (a ++ b) := by
    unfold afterDeliver deliverState
    rw [hpol]
    rfl
  rw [hafter] at ht1
  -- both fuels exceed the measure: the result does not depend on them
  show settled F (pushRx _ (.data b)) = settled F (pushRx u (.data (a ++ b)))
  rw [settled_of_tick_fuel F w hw hwb _ _ ht1 _ (Nat.lt_succ_self _),
    settled_of_tick_fuel F w hw hwb _ _ ht2 _ (Nat.lt_succ_self _)]

end

end Rodbus.Client
