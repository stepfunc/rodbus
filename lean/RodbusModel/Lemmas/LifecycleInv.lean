import RodbusModel.Lemmas.LifecycleEff
/-
  Runs of the life-cycle machine.  What an iteration and the user's actions append to the log
  (`Extends`, `UEff`, `DEff`), and the invariant principle: an instance of `Inv` holds wherever a
  run blocks (`Inv.reachable`).
-/
namespace Rodbus.Life
open Rodbus.Spec.Life Rodbus.Spec.LifeObs

/-- events that neither the state path (`states`) nor the connection automaton (`connStep`) looks at -/
def neutral : Ev → Bool
  | .gate _ | .closed => false
  | _ => true

/-- what the task logs itself: completions -/
def isCompletion : Ev → Bool
  | .done _ _ => true
  | _ => false

theorem neutral_of_completion {e : Ev} (h : isCompletion e = true) : neutral e = true := by
  cases e <;> first | rfl | cases h

theorem neutral_of_quiet {e : Ev} (h : quiet e = true) : neutral e = true := by
  cases e <;> first | rfl | cases h

theorem states_of_neutral (l : List Ev) (h : ∀ e ∈ l, neutral e = true) : states l = [] := by
  induction l with
  | nil => rfl
  | cons x l ih =>
    have hx := h x (by simp)
    have ih := ih fun e he => h e (List.mem_cons_of_mem _ he)
    cases x <;> first | exact ih | cases hx

def Extends (p : Ev → Bool) (l l' : List Ev) : Prop := ∃ evs, l' = l ++ evs ∧ ∀ e ∈ evs, p e = true

theorem Extends.refl (p : Ev → Bool) (l : List Ev) : Extends p l l := ⟨[], by simp, by simp⟩

theorem Extends.trans {p} {a b c : List Ev} (h1 : Extends p a b) (h2 : Extends p b c) :
    Extends p a c := by
  obtain ⟨e1, rfl, n1⟩ := h1
  obtain ⟨e2, rfl, n2⟩ := h2
  exact ⟨e1 ++ e2, List.append_assoc .., fun e he => (List.mem_append.1 he).elim (n1 e) (n2 e)⟩

theorem Extends.mono {p q : Ev → Bool} {l l' : List Ev} (hpq : ∀ {e}, p e = true → q e = true)
    (h : Extends p l l') : Extends q l l' := by
  obtain ⟨evs, hl, he⟩ := h
  exact ⟨evs, hl, fun e hm => hpq (he e hm)⟩

theorem Extends.states {l l' : List Ev} (h : Extends neutral l l') : states l' = states l := by
  obtain ⟨evs, rfl, he⟩ := h
  rw [states_append, states_of_neutral evs he, List.append_nil]

theorem states_append_quiet {l evs : List Ev} (h : ∀ e ∈ evs, quiet e = true) :
    states (l ++ evs) = states l :=
  Extends.states ⟨evs, rfl, fun e he => neutral_of_quiet (h e he)⟩

theorem shutdownEvents_mem {q : List Cmd} {e : Ev} (h : e ∈ shutdownEvents q) :
    ∃ id, e = .done id "shutdown" := by
  simp only [shutdownEvents, List.mem_filterMap] at h
  obtain ⟨x, _, hx⟩ := h
  cases x <;> simp at hx
  exact ⟨_, hx.symm⟩

theorem Eff.log {ph c nx c'} (h : Eff ph c nx c') : Extends isCompletion c.log c'.log := by
  cases h with
  | finish => exact ⟨_, rfl, fun e he => by obtain ⟨_, rfl⟩ := shutdownEvents_mem he; rfl⟩
  | answer _ _ id r | answerLost _ _ id r => exact ⟨[.done id r], rfl, by simp [isCompletion]⟩
  | _ => exact ⟨[], by simp, by simp⟩

theorem Eff.states {ph c nx c'} (h : Eff ph c nx c') : states c'.log = states c.log :=
  (h.log.mono neutral_of_completion).states

theorem advance_log (fuel : Nat) (ph : Phase) (s : S) :
    Extends isCompletion s.log (advance fuel ph s).1.log :=
  advance_eff (P := fun _ c => Extends isCompletion s.log c.log)
    (Q := fun c _ => Extends isCompletion s.log c.log)
    (fun _ _ h => h) (fun _ _ nx _ he h => by cases nx <;> exact h.trans he.log) fuel ph s
    (Extends.refl _ _)

/-- what user actions do while the task lives: quiet events are logged and commands queued — a
    request exactly when its submission is logged —, and the handles may go.  Existential: which
    quiet events (a `refused` is one) and which commands is forgotten. -/
def UEff (c c' : Core) : Prop :=
  ∃ evs q h, c' = { c with log := c.log ++ evs, queue := c.queue ++ q, handles := h } ∧
    (∀ e ∈ evs, quiet e = true) ∧ ∀ id, submitted id evs = completed id evs + queued id q

/-- what user actions do after the task has ended: quiet events are logged, every completion
    among them answers a submission among them, and the handles may go -/
def DEff (c c' : Core) : Prop :=
  ∃ evs h, c' = { c with log := c.log ++ evs, handles := h } ∧ (∀ e ∈ evs, quiet e = true) ∧
    ∀ id, completed id evs = submitted id evs

theorem applyAction_eff (s : S) (a : Action) : UEff (core s) (core (applyAction s a)) := by
  unfold applyAction
  cases hh : s.handles
  · exact ⟨[], [], false, by simp [core, hh], by simp, fun _ => rfl⟩
  · cases a
    case dropAll =>
      exact ⟨[.act .dropAll], [], false, by simp [core, S.emit], by simp [quiet], by simp⟩
    all_goals
      exact ⟨[.act _], [_], s.handles, rfl, by simp [quiet],
        by simp [submitted, queued, List.count_cons]⟩

theorem UEff.log {c c'} (h : UEff c c') : Extends quiet c.log c'.log := by
  obtain ⟨evs, _, _, rfl, hq, _⟩ := h
  exact ⟨evs, rfl, hq⟩

theorem UEff.states {c c'} (h : UEff c c') : states c'.log = states c.log :=
  (h.log.mono neutral_of_quiet).states

theorem foldl_applyAction_core {P : Core → Prop} (h : ∀ c c', UEff c c' → P c → P c')
    (acts : List Action) (s : S) (hp : P (core s)) : P (core (acts.foldl applyAction s)) :=
  List.foldlRecOn (motive := fun s => P (core s)) acts _ hp
    fun s hs a _ => h _ _ (applyAction_eff s a) hs

theorem advance_foldl_log (acts : List Action) (s : S) (ph : Phase) :
    Extends neutral s.log
      (advance (fuelFor (acts.foldl applyAction s)) ph (acts.foldl applyAction s)).1.log :=
  (foldl_applyAction_core (P := fun c => Extends neutral s.log c.log)
    (fun _ _ h hp => hp.trans (h.log.mono neutral_of_quiet)) acts s (.refl _ _)).trans
    ((advance_log ..).mono neutral_of_completion)

/-- a stop at a callback logs `closed` (if the peer has seen the close), the state, and then
    nothing of that kind -/
theorem stop_gate_log (s : S) (st : St) (next : Phase) (acts : List Action) :
    Extends neutral (s.report.emit (.gate st)).log (stop s (.gate st next) acts).1.log :=
  advance_foldl_log acts _ next

theorem stop_gate_states (s : S) (st : St) (next : Phase) (acts : List Action) :
    states (stop s (.gate st next) acts).1.log = states s.log ++ [st] := by
  rw [(stop_gate_log s st next acts).states]
  simp

theorem stop_idle_states (s : S) (ph : Phase) (acts : List Action) :
    states (stop s (.idle ph) acts).1.log = states s.log := by
  simp only [stop]
  rw [(advance_foldl_log acts (s.emit .idle) ph).states]
  simp

/-- the listener callback: the peer's observation of the close is read off, then the state -/
def Core.announce (c : Core) (st : St) : Core :=
  { c with log := c.log ++ (if c.unreported then [.closed] else []) ++ [.gate st], unreported := false }

theorem core_announce (s : S) (st : St) : core (s.report.emit (.gate st)) = (core s).announce st := by
  unfold S.report Core.announce
  cases hu : s.unreported <;> simp [core, S.emit, hu]

theorem Core.announce_states (c : Core) (st : St) :
    states (c.announce st).log = states c.log ++ [st] := by
  unfold Core.announce; split <;> simp [states]

/-- an invariant of the life-cycle machine: `P` at the iterations of the task, `Q` where it blocks.
    `gate` and `idle` are what `stop` does before the user acts: the callback (`Core.announce`), the
    `idle` event; `done` is a stop after the task has ended. -/
structure Inv (P : Phase → Core → Prop) (Q : Core → Pos → Prop) : Prop where
  eff : ∀ {ph c nx c'}, Eff ph c nx c' → P ph c → nx.sat P Q c'
  user : ∀ {ph c c'}, UEff c c' → P ph c → P ph c'
  gate : ∀ {c st next}, Q c (.gate st next) → P next (c.announce st)
  idle : ∀ {c ph}, Q c (.idle ph) → P ph { c with log := c.log ++ [.idle] }
  done : ∀ {c c'}, DEff c c' → Q c .done → Q c' .done

theorem Inv.stop {P Q} (h : Inv P Q) (s : S) (pos : Pos) (acts : List Action)
    (hq : At (Ok Q) (s, pos)) : At (Ok Q) (stop s pos acts) := by
  have adv : ∀ (ph : Phase) (s : S), sessOk ph = true → P ph (core s) →
      At (Ok Q) (advance (fuelFor (acts.foldl applyAction s)) ph (acts.foldl applyAction s)) :=
    fun ph s hs hp => advance_eff_fuel (fun _ _ _ _ => h.eff) _ ph _
      (foldl_applyAction_core (fun _ _ => h.user) acts s hp) hs (fuelFor_ge _ ph)
  obtain ⟨hk, hq⟩ := hq
  cases pos with
  | done =>
    refine ⟨trivial, ?_⟩
    simp only [Life.stop, C13.foldl_applyDone_eq]
    exact h.done ⟨_, _, rfl, C13.afterEvents_quiet _ _, C13.afterEvents_exactly_once _ _⟩ hq
  | gate st next => exact adv next _ hk (core_announce s st ▸ h.gate hq)
  | idle ph => exact adv ph (s.emit .idle) hk.1 (h.idle hq)

theorem Inv.runStops {P Q} (h : Inv P Q) (script : List (List Action)) (s : S) (pos : Pos)
    (hq : At (Ok Q) (s, pos)) : At (Ok Q) (runStops s pos script) := by
  induction script generalizing s pos with
  | nil => exact hq
  | cons acts rest ih => exact ih _ _ (h.stop s pos acts hq)

theorem Inv.run {P Q} (h : Inv P Q) {s0 : S} (h0 : Q (core s0) (.gate .disabled .waitEnabled))
    (script : List (List Action)) : At (Ok Q) (run s0 script) :=
  h.runStops script (start s0).1 (start s0).2 ⟨rfl, h0⟩

theorem Inv.reachable {P Q} (h : Inv P Q)
    (h0 : ∀ s0, Initial s0 → Q (core s0) (.gate .disabled .waitEnabled))
    {s : S} {pos : Pos} (hr : Reachable s pos) : Ok Q (core s) pos := by
  obtain ⟨s0, script, hi, hrun⟩ := hr
  have := h.run (h0 s0 hi) script
  rwa [hrun] at this

/-- wherever a run blocks: no session with a peer that fails the attempt, and the task sleeps
    only on an empty queue -/
theorem Reachable.ok {s pos} (h : Reachable s pos) : Pos.ok (core s) pos :=
  (Inv.reachable (P := fun _ _ => True) (Q := fun _ _ => True)
    ⟨fun {_ _ nx _} _ _ => by cases nx <;> trivial, fun _ _ => trivial, fun _ => trivial,
      fun _ => trivial, fun _ _ => trivial⟩ (fun _ _ => trivial) h).1

end Rodbus.Life
