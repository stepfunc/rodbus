import RodbusModel.Lemmas.ClientInv
/-
  Run-level invariants of the client task about WHAT is written and WHAT is completed
  (C03 / C06 / C07 at the level of a run, not of the helper functions).

  `LogOk F Q G s`:
  * every request still queued satisfies `Q` (a predicate on requests that every submitted request
    of the script satisfies, e.g. "its arguments are u16 values" or "it is one of the script");
  * every entry `(rid, tx, bytes)` of `sent` is the frame `F.format tx unit pdu` of a request `r`
    with `Q r`, `r.rid = rid` whose `encodeRequest` succeeded with `pdu`;
  * every `.tx b` entry of the log is the frame of an entry of `sent`;
  * every completion `.done _ _ res _` of the log carries a result with `G res` (a predicate on
    results that holds for everything the reader, the discard loop, the response handler, the
    validation, a failed write, a timeout, `noconn` and shutdown can produce).

  It holds initially and is kept by every tick, clock movement and script step (`runState_logOk`).
-/
namespace Rodbus.Client

def txLog : List LogEntry → List Bytes
  | [] => []
  | .tx b :: es => b :: txLog es
  | _ :: es => txLog es

theorem mem_txLog {b : Bytes} {l : List LogEntry} : b ∈ txLog l ↔ LogEntry.tx b ∈ l := by
  induction l with
  | nil => simp [txLog]
  | cons e es ih => cases e <;> simp [txLog, ih]

theorem txLog_append (a b : List LogEntry) : txLog (a ++ b) = txLog a ++ txLog b := by
  induction a with
  | nil => rfl
  | cons e es ih => cases e <;> simp [txLog, ih]

def scriptReqs : List Step → List Req
  | [] => []
  | .submit _ _ r :: rest => r :: scriptReqs rest
  | _ :: rest => scriptReqs rest

theorem scriptRids_eq_map (steps : List Step) : scriptRids steps = (scriptReqs steps).map (·.rid) := by
  induction steps with
  | nil => rfl
  | cons st rest ih => cases st <;> simp [scriptRids, scriptReqs, ih]

theorem mem_scriptReqs {r : Req} {steps : List Step} :
    r ∈ scriptReqs steps ↔ ∃ op h, Step.submit op h r ∈ steps := by
  induction steps with
  | nil => simp [scriptReqs]
  | cons st rest ih =>
    have hcons : (∃ op h, Step.submit op h r ∈ st :: rest)
        ↔ (∃ op h, Step.submit op h r = st) ∨ ∃ op h, .submit op h r ∈ rest := by
      simp only [List.mem_cons, exists_or]
    rw [hcons, ← ih]
    cases st with
    | submit op h r' =>
      simp only [scriptReqs, List.mem_cons, Step.submit.injEq]
      exact or_congr_left ⟨fun e => ⟨op, h, rfl, rfl, e⟩, fun ⟨_, _, _, _, e⟩ => e⟩
    | _ => exact ⟨.inr, fun h => h.resolve_left nofun⟩

section
variable {σ : Type}

def Encoded (F : Framing σ) (Q : Req → Prop) (x : Rid × Nat × Bytes) : Prop :=
  ∃ r pdu, Q r ∧ r.rid = x.1 ∧ encodeRequest r.req = .ok pdu ∧ x.2.2 = F.format x.2.1 r.unit pdu

structure ResOk (F : Framing σ) (G : Res → Prop) : Prop where
  badReq : ∀ e, G (.badReq e)
  pipe : G (.io .pipe)
  timeout : G .timeout
  noConn : G .noConn
  shutdown : G .shutdown
  resp : ∀ req pdu, G (respResult req pdu)
  reader : ∀ fuel st rb rx res x, readerPoll F fuel st rb rx = (.fail res, x) → G res
  discard : ∀ fuel st rb res x, discardBuffered F fuel st rb = (some res, x) → G res

/-- the invariant on the three fields it talks about -/
def LogOk' (F : Framing σ) (Q : Req → Prop) (G : Res → Prop) (queue : List Cmd)
    (sent : List (Rid × Nat × Bytes)) (log : List LogEntry) : Prop :=
  (∀ r ∈ reqsOf queue, Q r) ∧ (∀ x ∈ sent, Encoded F Q x)
    ∧ (∀ b ∈ txLog log, ∃ rid tx, (rid, tx, b) ∈ sent)
    ∧ (∀ rid sty res t, LogEntry.done rid sty res t ∈ log → G res)

def LogOk (F : Framing σ) (Q : Req → Prop) (G : Res → Prop) (s : State σ) : Prop :=
  LogOk' F Q G s.queue s.sent s.log

/-- an entry that is not a transmission and, if it is a completion, carries a good result -/
def EntryOk (G : Res → Prop) : LogEntry → Prop
  | .tx _ => False
  | .done _ _ res _ => G res
  | _ => True

variable {F : Framing σ} {Q : Req → Prop} {G : Res → Prop}

theorem logOk'_cons {q : List Cmd} {sent : List (Rid × Nat × Bytes)} {log : List LogEntry}
    (h : LogOk' F Q G q sent log) (e : LogEntry) (he : EntryOk G e) :
    LogOk' F Q G q sent (e :: log) := by
  obtain ⟨h1, h2, h3, h4⟩ := h
  refine ⟨h1, h2, ?_, ?_⟩
  · intro b hb
    cases e with
    | tx b' => exact he.elim
    | _ => exact h3 b hb
  · intro rid sty res t hm
    simp only [List.mem_cons] at hm
    rcases hm with rfl | hm
    · exact he
    · exact h4 rid sty res t hm

theorem logOk'_append {q : List Cmd} {sent : List (Rid × Nat × Bytes)} {log : List LogEntry}
    (h : LogOk' F Q G q sent log) (es : List LogEntry) (he : ∀ e ∈ es, EntryOk G e) :
    LogOk' F Q G q sent (es ++ log) := by
  induction es with
  | nil => exact h
  | cons e es ih =>
    exact logOk'_cons (ih (fun x hx => he x (by simp [hx]))) e (he e (by simp))

theorem logOk'_snoc {q : List Cmd} {sent : List (Rid × Nat × Bytes)} {log : List LogEntry}
    (h : LogOk' F Q G q sent log) (c : Cmd) (hc : ∀ r, c = .req r → Q r) :
    LogOk' F Q G (q ++ [c]) sent log := by
  obtain ⟨h1, h2, h3, h4⟩ := h
  refine ⟨fun x hx => ?_, h2, h3, h4⟩
  rw [reqsOf_append, List.mem_append] at hx
  rcases hx with hx | hx
  · exact h1 x hx
  · cases c <;> simp [reqsOf] at hx
    exact hc x (by rw [hx])

theorem logOk'_send {q : List Cmd} {sent : List (Rid × Nat × Bytes)} {log : List LogEntry}
    (h : LogOk' F Q G q sent log) (x : Rid × Nat × Bytes) (hx : Encoded F Q x) (logged : Bool) :
    LogOk' F Q G q (x :: sent) (if logged then .tx x.2.2 :: log else log) := by
  obtain ⟨h1, h2, h3, h4⟩ := h
  have h3' : ∀ b ∈ txLog log, ∃ rid tx, (rid, tx, b) ∈ x :: sent := fun b hb =>
    (h3 b hb).imp fun _ => Exists.imp fun _ hm => List.mem_cons_of_mem _ hm
  refine ⟨h1, List.forall_mem_cons.mpr ⟨hx, h2⟩, ?_, ?_⟩
  · cases logged
    · exact h3'
    · exact List.forall_mem_cons.mpr ⟨⟨x.1, x.2.1, List.mem_cons_self⟩, h3'⟩
  · cases logged
    · exact h4
    · exact fun rid sty res t hm => h4 rid sty res t ((List.mem_cons.mp hm).resolve_left nofun)

theorem logOk_finish (s : State σ) (m : Nat) (r : Req) (res : Res) (h : LogOk F Q G s)
    (hg : G res) : LogOk F Q G (finish s m r res) := by
  obtain ⟨fin, _, _, hfin, _, e⟩ := finish_frame s m r res
  rw [e]
  refine logOk'_append (logOk'_cons h (.done r.rid r.style res s.now) hg) fin ?_
  rcases hfin with rfl | ⟨k, rfl⟩ <;> simp [EntryOk]

theorem logOk_applySetting (s : State σ) (c : Cmd) (h : LogOk F Q G s) :
    LogOk F Q G (applySetting s c) := by
  cases c <;> exact h

theorem logOk_popQueue (s : State σ) (c : Cmd) (q : List Cmd) (hq : s.queue = c :: q)
    (h : LogOk F Q G s) : LogOk F Q G { s with queue := q } ∧ ∀ r, c = .req r → Q r := by
  obtain ⟨h1, h2, h3, h4⟩ := h
  rw [hq] at h1
  refine ⟨⟨fun r hr => h1 r ?_, h2, h3, h4⟩, ?_⟩
  · cases c <;> simp [reqsOf, hr]
  · rintro r rfl
    exact h1 r (by simp [reqsOf])

theorem Started.logOk (hG : ResOk F G) {s t : State σ} {m : Nat} {r : Req}
    (hs : Started F s m r t) (h : LogOk F Q G s) (hr : Q r) : LogOk F Q G t := by
  cases hs with
  | fail y res hy =>
    obtain ⟨_, _, _, ey⟩ := hy.writes
    refine logOk_finish y m r res (by rw [ey]; exact h) ?_
    cases hy with
    | encode e _ => exact hG.badReq e
    | discard _ _ _ _ _ hd => exact hG.discard _ _ _ _ _ hd
    | write _ _ _ _ _ _ => exact hG.pipe
  | sent pdu st' rb' he _ _ =>
    exact logOk'_send h (r.rid, s.tx, F.format s.tx r.unit pdu) ⟨r, pdu, hr, rfl, he, rfl⟩
      (isLatest s m)

theorem ResOk.caused (hG : ResOk F G) {res : Res} (h : Caused F res) : G res := by
  cases h with
  | timeout => exact hG.timeout
  | resp req pdu => exact hG.resp req pdu
  | reader h => exact hG.reader _ _ _ _ _ _ h

/-- the task writes `queue`, `sent` and `log` only when it takes a command from the queue, completes
    a request or ends a phase -/
theorem logOk_blocks (hG : ResOk F G) : Blocks F (LogOk F Q G) where
  poll := fun _ _ h => h
  coins := fun _ _ h => h
  session := fun _ _ _ h => h
  phase := fun _ _ _ _ h => h
  dequeue := fun s _ r q _ hq hs h =>
    hs.logOk hG (logOk_popQueue s _ q hq h).1 ((logOk_popQueue s _ q hq h).2 r rfl)
  take := fun s c q hq _ h => logOk_applySetting _ c (logOk_popQueue s c q hq h).1
  noConn := fun s _ q hq h => logOk'_cons (logOk_popQueue s _ q hq h).1 _ hG.noConn
  endPhase := fun _ _ h => logOk'_cons h _ trivial
  finish := fun s m q res hc h => logOk_finish s m q res h (hG.caused hc)
  release := fun _ h => h
  clock := fun _ _ h => h

def StepQ (Q : Req → Prop) : Step → Prop
  | .submit _ _ r => Q r
  | _ => True

theorem Applied.logOk (hG : ResOk F G) {s t : State σ} {st : Step} (h : Applied s st t)
    (hst : StepQ Q st) (hl : LogOk F Q G s) : LogOk F Q G t := by
  cases h with
  | quiet => exact hl
  | note st e he => exact logOk'_cons hl e (by cases e <;> first | trivial | cases he)
  | acceptDone op h r res extra hx hres =>
    have hg : G res := by
      rcases hres with ⟨e, rfl⟩ | ⟨rfl, _⟩
      · exact hG.badReq e
      · exact hG.shutdown
    refine logOk'_append (logOk'_cons hl (.done r.rid r.style res s.now) hg) extra ?_
    rcases hx with rfl | ⟨e, rfl⟩ <;> simp [EntryOk]
  | acceptQueue op h r _ _ => exact logOk'_snoc hl (.req r) fun _ e => Cmd.req.inj e ▸ hst
  | enqueueCmd st c _ hc _ => exact logOk'_snoc hl c fun r e => by rw [e] at hc; cases hc
  | abort held _ =>
    obtain ⟨_, b, c, d⟩ := logOk'_append hl
      (doneEntries s .shutdown (inflightReqs s ++ reqsOf s.queue)) (by
        intro e he
        obtain ⟨r, _, rfl⟩ := mem_doneEntries.mp he
        exact hG.shutdown)
    exact ⟨fun _ hr => absurd hr List.not_mem_nil, b, c, d⟩

theorem logOk_init (F : Framing σ) (Q : Req → Prop) (G : Res → Prop) (cap maxTo : Nat)
    (d : Decode) (coins : List Bool) : LogOk F Q G (State.init F cap maxTo d coins) :=
  ⟨by simp [State.init, reqsOf], by simp [State.init], by simp [State.init, txLog],
    by simp [State.init]⟩

theorem runState_logOk (hG : ResOk F G) (s : State σ) (steps : List Step)
    (hQ : ∀ st ∈ steps, StepQ Q st) (h : LogOk F Q G s) : LogOk F Q G (runState F s steps) :=
  runState_inv (logOk_blocks hG).taskInv (StepQ Q)
    (fun s st hst h => (applyStep_cases s st).logOk hG hst h) s steps hQ h

theorem reachable_logOk (hG : ResOk F G) (cap maxTo : Nat) (d : Decode) (coins : List Bool)
    (steps : List Step) (hQ : ∀ st ∈ steps, StepQ Q st) :
    LogOk F Q G (runState F (State.init F cap maxTo d coins) steps) :=
  runState_logOk hG _ steps hQ (logOk_init F Q G cap maxTo d coins)

theorem resOk_true (F : Framing σ) : ResOk F (fun _ => True) :=
  ⟨fun _ => trivial, trivial, trivial, trivial, trivial, fun _ _ => trivial,
    fun _ _ _ _ _ _ _ => trivial, fun _ _ _ _ _ _ => trivial⟩

end

end Rodbus.Client
