import RodbusModel.Lemmas.ClientCause
/-
  The timeout counter along whole runs (C12 `counter_exact` for the sessions of `runState`).
  `taskLog` is what the TASK logged while a script ran, without what the script steps log themselves
  (a sublist of the log with all its `.fin` entries); `phasesOf` splits it at these.  `SessInv` ties
  the counter `nto` of the abstract state to the phases of the task log.  It holds along every run
  because a tick never logs a bare `.fin (.maxTo n)`: `TEff.phaseEnd` leaves the kind open, the
  concrete machine does not (`Tick.noMax`).
-/
namespace Rodbus.Client

def NoMax (old new : List LogEntry) : Prop := ∀ n tm, new ≠ .fin (.maxTo n) tm :: old

theorem noMax_refl (l : List LogEntry) : NoMax l l := by
  intro n tm h
  have := congrArg List.length h
  simp at this

theorem noMax_cons (l : List LogEntry) (e : LogEntry) (he : ∀ n tm, e ≠ .fin (.maxTo n) tm) :
    NoMax l (e :: l) :=
  fun n tm h => he n tm (List.cons.inj h).1

theorem noMax_fin (l : List LogEntry) (k : EndKind) (t : Nat) (hk : ∀ n, k ≠ .maxTo n) :
    NoMax l (.fin k t :: l) :=
  noMax_cons l _ fun n _ h => hk n (LogEntry.fin.inj h).1

theorem noMax_two (l : List LogEntry) (a b : LogEntry) : NoMax l (a :: b :: l) := by
  intro n tm h
  have := congrArg List.length h
  simp at this

section
variable {σ : Type}

theorem finish_noMax (s s1 : State σ) (m : Nat) (q : Req) (res : Res) (h : s1.log = s.log) :
    NoMax s.log (finish s1 m q res).log := by
  obtain ⟨fin, hfin, h1⟩ := finish_log s1 m q res
  rw [h1, h]
  rcases hfin with rfl | ⟨k, rfl⟩
  · exact noMax_cons _ _ nofun
  · exact noMax_two _ _ _

@[simp] theorem now_flip (s : State σ) : (flip s).2.now = s.now := by
  obtain ⟨cs, h⟩ := flip_writes s; rw [h]

variable {F : Framing σ} {s t : State σ}

/-- `MaxTimeouts` is only logged together with the timeout completion that reaches the limit -/
theorem Tick.noMax (h : Tick F s t) : NoMax s.log t.log := by
  cases h with
  | startSession m ps hp hph | startWait ps hp hph | startFail ms ps hp hph => exact noMax_refl _
  | commit dl hp => obtain ⟨cs, h⟩ := flip_writes s; rw [h]; exact noMax_refl _
  | reader m y ho hy hb hf =>
    obtain ⟨_, _, _, _, h⟩ := (Pre.polled (F := F) ho hy).writes
    rw [h]; exact noMax_refl _
  | phaseEnd x k hx hn hi hk =>
    obtain ⟨_, _, _, _, rfl⟩ := hx.writes
    exact noMax_fin _ _ _ hk
  | phaseEndCmd x c q k hx hn hi hq hc hk =>
    obtain ⟨_, _, _, _, rfl⟩ := hx.writes
    show NoMax s.log (.fin k _ :: (applySetting _ c).log)
    rw [log_applySetting]; exact noMax_fin _ _ _ hk
  | setting x c q hx hn hi hq hc =>
    obtain ⟨_, _, _, _, rfl⟩ := hx.writes
    rw [log_applySetting]; exact noMax_refl _
  | noConn r q hp hq => exact noMax_cons _ _ nofun
  | request m x r q t hp hx hq hst =>
    obtain ⟨_, _, _, _, rfl⟩ := hx.writes
    cases hst with
    | fail y res hy =>
      obtain ⟨_, _, _, rfl⟩ := hy.writes
      exact finish_noMax s _ m r res rfl
    | sent pdu st' rb' he hd hw =>
      show NoMax s.log (if isLatest _ m then _ else s.log)
      split
      · exact noMax_cons _ _ nofun
      · exact noMax_refl _
  | finish m q tx dl x res hp hx hf =>
    obtain ⟨_, _, _, _, rfl⟩ := hx.writes
    exact finish_noMax s _ m q res rfl

end

/-- the entries of `new` that are not in its suffix `old`, newest first (the model's `newEntries`
    is the same list, oldest first) -/
def logSince (old new : List LogEntry) : List LogEntry := new.take (new.length - old.length)

theorem logSince_append (new old : List LogEntry) : logSince old (new ++ old) = new := by
  unfold logSince
  simp

/-- a task log (newest entry first) split at its `.fin` entries: the outcomes of the completions
    of the phase that is still running (oldest first), and the finished phases (newest first),
    each with its end kind, its end time and its outcomes (oldest first) -/
def phasesOf : List LogEntry → List Res × List (EndKind × Nat × List Res)
  | [] => ([], [])
  | .done _ _ res _ :: L => ((phasesOf L).1 ++ [res], (phasesOf L).2)
  | .fin k t :: L => ([], (k, t, (phasesOf L).1) :: (phasesOf L).2)
  | .sub _ _ :: L => phasesOf L
  | .cmdErr _ :: L => phasesOf L
  | .tx _ :: L => phasesOf L

@[simp] theorem phasesOf_done (rid : Rid) (st : Style) (res : Res) (t : Nat) (L : List LogEntry) :
    phasesOf (.done rid st res t :: L) = ((phasesOf L).1 ++ [res], (phasesOf L).2) := rfl

@[simp] theorem phasesOf_fin (k : EndKind) (t : Nat) (L : List LogEntry) :
    phasesOf (.fin k t :: L) = ([], (k, t, (phasesOf L).1) :: (phasesOf L).2) := rfl

@[simp] theorem phasesOf_tx (b : Bytes) (L : List LogEntry) : phasesOf (.tx b :: L) = phasesOf L :=
  rfl

theorem phasesOf_split (post older : List LogEntry) (k : EndKind) (t : Nat) :
    (k, t, (phasesOf older).1) ∈ (phasesOf (post ++ .fin k t :: older)).2 := by
  induction post with
  | nil => simp
  | cons e post ih =>
    cases e <;> simp [phasesOf, ih]

def LogEntry.doneRes : LogEntry → Option Res
  | .done _ _ res _ => some res
  | _ => none

/-- the results of the completions in the newest segment of a log (everything since the last
    `.fin`), oldest first -/
def curOutcomes (L : List LogEntry) : List Res :=
  ((L.takeWhile fun e => !e.isFin).filterMap LogEntry.doneRes).reverse

theorem phasesOf_fst (L : List LogEntry) : (phasesOf L).1 = curOutcomes L := by
  induction L with
  | nil => rfl
  | cons e L ih =>
    cases e with
    | done rid st res t =>
      show (phasesOf L).1 ++ [res] = (res :: _).reverse
      rw [ih, List.reverse_cons]; rfl
    | fin k t => rfl
    | sub rid e => exact ih
    | cmdErr op => exact ih
    | tx b => exact ih

/-- how a phase may end, given the outcomes `outs` of its requests and the limit `N`
    (`0` = no limit): it ends with `MaxTimeouts` iff the last `N ≥ 1` outcomes are timeouts, the
    number reported is `N`, and at no earlier point of the phase were the last `N` outcomes
    timeouts -/
def FinOK (N : Nat) (k : EndKind) (outs : List Res) : Prop :=
  ((∃ n, k = .maxTo n) ↔ (1 ≤ N ∧ N ≤ trailing outs))
    ∧ (∀ n, k = .maxTo n → n = N)
    ∧ (1 ≤ N → ∀ j, j < outs.length → trailing (outs.take j) < N)

theorem close_ok {N : Nat} {k : EndKind} {outs : List Res} (hk : ∀ n, k ≠ .maxTo n)
    (hno : 1 ≤ N → ¬ Hit N outs) : FinOK N k outs := by
  refine ⟨⟨fun ⟨n, h⟩ => absurd h (hk n), fun ⟨h1, h2⟩ => absurd (hit_of_trailing h2) (hno h1)⟩,
    fun n h => absurd h (hk n), ?_⟩
  intro h1 j hj
  apply Nat.lt_of_not_le
  intro hle
  exact hno h1 ⟨j, by omega, hle⟩

theorem close_max {N : Nat} {cur : List Res} (hN : 1 ≤ N) (hno : ¬ Hit N cur)
    (hnto : N ≤ trailing cur + 1) : FinOK N (.maxTo N) (cur ++ [.timeout]) := by
  refine ⟨⟨fun _ => ⟨hN, by rw [trailing_snoc]; simpa using hnto⟩, fun _ => ⟨N, rfl⟩⟩, ?_, ?_⟩
  · intro n h; cases h; rfl
  · intro _ j hj
    have hj' : j ≤ cur.length := by simp at hj; omega
    rw [List.take_append_of_le_length hj']
    apply Nat.lt_of_not_le
    intro hle
    exact hno ⟨j, hj', hle⟩

/-- what the position of the task says about the outcomes of the running phase -/
def PosOK (N : Nat) (p : Pos) (nto : Nat) (cur : List Res) : Prop :=
  match p with
  | .noPhase => cur = []
  | .idle _ => 1 ≤ N → nto = trailing cur
  | .inflight _ _ _ _ => 1 ≤ N → nto = trailing cur
  | .waitEnabled => True
  | .failFor _ _ => True

structure SessInv (N : Nat) (c : Core) (L : List LogEntry) : Prop where
  maxTo : c.maxTo = N
  closed : ∀ x ∈ (phasesOf L).2, FinOK N x.1 x.2.2
  noHit : 1 ≤ N → ¬ Hit N (phasesOf L).1
  pos : c.alive = true → PosOK N c.pos c.nto (phasesOf L).1

theorem sessInv_init (N : Nat) : SessInv N (Core.init N) [] :=
  ⟨rfl, by simp [phasesOf], fun h => nohit_nil h, fun _ => rfl⟩

theorem sessInv_fin {N : Nat} {c : Core} {L : List LogEntry} {k : EndKind} (t : Nat)
    (hm : c.maxTo = N) (hp : c.pos = .noPhase) (hcl : ∀ x ∈ (phasesOf L).2, FinOK N x.1 x.2.2)
    (hk : FinOK N k (phasesOf L).1) : SessInv N c (.fin k t :: L) := by
  refine ⟨hm, fun x hx => ?_, fun h => nohit_nil h, fun _ => by rw [hp]; rfl⟩
  rcases List.mem_cons.mp hx with rfl | hx
  · exact hk
  · exact hcl x hx

/-- `c0` is the state with the completion logged, the argument of `afterCore` in
    `TEff.dequeueFail` and `TEff.finish` -/
theorem sessInv_after (N : Nat) (c0 : Core) (L : List LogEntry) (m : Nat) (rid : Rid) (st : Style)
    (res : Res) (tm : Nat) (hm : c0.maxTo = N)
    (hcl : ∀ x ∈ (phasesOf L).2, FinOK N x.1 x.2.2) (hno : 1 ≤ N → ¬ Hit N (phasesOf L).1)
    (hnto : 1 ≤ N → c0.nto = trailing (phasesOf L).1) :
    ∃ new, (afterCore c0 m res).log = new ++ c0.log
      ∧ SessInv N (afterCore c0 m res) (new ++ .done rid st res tm :: L) := by
  cases hk : res.sessionEnd with
  | some k =>
    have hnt : res ≠ .timeout := by rintro rfl; cases hk
    rw [afterCore_sessionEnd c0 m hk]
    exact ⟨[.fin k c0.now], rfl, sessInv_fin _ hm rfl hcl
      (close_ok (Res.sessionEnd_ne_maxTo hk) fun h => nohit_snoc_other h hnt (hno h))⟩
  | none =>
    rcases counter_step hm hno hnto m hk with ⟨hN, rfl, hlim, he⟩ | ⟨hno', n, hn', he⟩ <;> rw [he]
    · exact ⟨[.fin (.maxTo N) c0.now], rfl, sessInv_fin _ hm rfl hcl (close_max hN (hno hN) hlim)⟩
    · exact ⟨[], rfl, hm, hcl, hno', fun _ => hn'⟩

theorem sessInv_teff (N : Nat) (c c' : Core) (L : List LogEntry) (h : SessInv N c L)
    (e : TEff c c') (hmax : NoMax c.log c'.log) :
    ∃ new, c'.log = new ++ c.log ∧ SessInv N c' (new ++ L) := by
  obtain ⟨hm, hcl, hno, hpos⟩ := h
  cases e with
  | quiet | setting x q ha hi hn hq hx | time t ht1 ht2 => exact ⟨[], rfl, hm, hcl, hno, hpos⟩
  | commit dl ha hp | startWait ha hp | startFail ms ha hp =>
    exact ⟨[], rfl, hm, hcl, hno, fun _ => trivial⟩
  | startSession m ha hp =>
    have hcur : (phasesOf L).1 = [] := by have := hpos ha; rw [hp] at this; exact this
    exact ⟨[], rfl, hm, hcl, hno, fun _ _ => by rw [List.nil_append, hcur]; rfl⟩
  | phaseEnd k ha hi hn | phaseEndCmd k x q ha hi hn hq hx =>
    exact ⟨[.fin k c.now], rfl, sessInv_fin _ hm rfl hcl
      (close_ok (fun n hk => hmax n c.now (hk ▸ rfl)) hno)⟩
  | noConn r q ha hp hq =>
    refine ⟨[doneEntry c r .noConn], rfl, hm, hcl, fun h => nohit_snoc_other h (by simp) (hno h),
      fun _ => ?_⟩
    show PosOK N c.pos _ _
    rcases hp with hp | ⟨dl, b, hp⟩ <;> rw [hp] <;> trivial
  | send m r q bytes logged ha hp hq =>
    have hcur := hpos ha
    rw [hp] at hcur
    cases logged
    · exact ⟨[], rfl, hm, hcl, hno, fun _ => hcur⟩
    · exact ⟨[.tx bytes], rfl, hm, hcl, hno, fun _ => hcur⟩
  | dequeueFail m r q res ha hp hq hres =>
    have hcur := hpos ha
    rw [hp] at hcur
    obtain ⟨new, h1, h2⟩ := sessInv_after N
      { c with queue := q, tx := nextTx c.tx, dequeued := (r.rid, c.tx) :: c.dequeued,
               log := doneEntry c r res :: c.log } L m r.rid r.style res c.now hm hcl hno hcur
    exact ⟨new ++ [doneEntry c r res], by rw [h1]; simp, by simpa [doneEntry] using h2⟩
  | finish m r tx dl res ha hp ht h3 h4 =>
    have hcur := hpos ha
    rw [hp] at hcur
    obtain ⟨new, h1, h2⟩ := sessInv_after N { c with log := doneEntry c r res :: c.log } L m
      r.rid r.style res c.now hm hcl hno hcur
    exact ⟨new ++ [doneEntry c r res], by rw [h1]; simp, by simpa [doneEntry] using h2⟩

theorem sessInv_ueff (N : Nat) (c c' : Core) (L : List LogEntry) (h : SessInv N c L)
    (e : UEff c c') : SessInv N c' L := by
  obtain ⟨hm, hcl, hno, hpos⟩ := h
  cases e with
  | abort ha => exact ⟨hm, hcl, hno, fun h => by simp at h⟩
  | _ => exact ⟨hm, hcl, hno, hpos⟩

section
variable {σ : Type}

/-- the state from which the tasks run in a script step: the step's own effect has been applied -/
def stepBase (s : State σ) : Step → State σ
  | .advance _ => s
  | st => applyStep s st

/-- what the TASK logged while the script `steps` ran from `s` (newest first): per step, the
    entries added to the log while the tasks ran (`settle` / `advance`), i.e. after the step's own
    effect (`applyStep`: refused submissions, immediate completions, the completions of `abort`) -/
def taskLog (F : Framing σ) (s : State σ) : List Step → List LogEntry
  | [] => []
  | st :: rest =>
    taskLog F (stepState F s st) rest ++ logSince (stepBase s st).log (stepState F s st).log

theorem sessInv_taskInv (F : Framing σ) (N : Nat) (x : State σ) (L : List LogEntry) :
    TaskInv F (fun t => ∃ new, t.log = new ++ x.log ∧ SessInv N (core t) (new ++ L)) := by
  have step : ∀ (s t : State σ), TEff (core s) (core t) → NoMax s.log t.log →
      (∃ new, s.log = new ++ x.log ∧ SessInv N (core s) (new ++ L)) →
      ∃ new, t.log = new ++ x.log ∧ SessInv N (core t) (new ++ L) := by
    intro s t e hmax ⟨n1, h1, i1⟩
    obtain ⟨n2, h2, i2⟩ := sessInv_teff N _ _ _ i1 e hmax
    have h2' : t.log = n2 ++ s.log := h2
    exact ⟨n2 ++ n1, by rw [h2', h1, List.append_assoc], by rw [List.append_assoc]; exact i2⟩
  exact ⟨fun s t h ht => step s t (tick_eff F s t ht) (tick_cases ht).2.noMax h, fun _ h => h,
    fun s target h => step s _ (moveClock_eff s target) (noMax_refl _) h⟩

theorem stepState_sessInv (F : Framing σ) (N : Nat) (s : State σ) (st : Step) (L : List LogEntry)
    (h : SessInv N (core s) L) :
    SessInv N (core (stepState F s st)) (logSince (stepBase s st).log (stepState F s st).log ++ L) := by
  have run : ∃ new, (stepState F s st).log = new ++ (stepBase s st).log
      ∧ SessInv N (core (stepState F s st)) (new ++ L) := by
    cases st with
    | advance ms => exact advance_taskInv (sessInv_taskInv F N s L) _ _ s ⟨[], rfl, h⟩
    | _ =>
      exact settled_inv (sessInv_taskInv F N _ L) _
        ⟨[], rfl, sessInv_ueff N _ _ L h (applyStep_eff s _)⟩
  obtain ⟨new, h1, h2⟩ := run
  rw [h1, logSince_append]; exact h2

theorem runState_sessInv (F : Framing σ) (N : Nat) (s : State σ) (steps : List Step)
    (L : List LogEntry) (h : SessInv N (core s) L) :
    SessInv N (core (runState F s steps)) (taskLog F s steps ++ L) := by
  induction steps generalizing s L with
  | nil => exact h
  | cons st rest ih =>
    have := ih (stepState F s st) _ (stepState_sessInv F N s st L h)
    simpa [taskLog, runState] using this

theorem Applied.log {s t : State σ} {st : Step} (h : Applied s st t) :
    ∃ unew, t.log = unew ++ s.log ∧ ∀ e ∈ unew, e.isFin = false := by
  cases h with
  | quiet | acceptQueue | enqueueCmd => exact ⟨[], rfl, fun _ h => absurd h List.not_mem_nil⟩
  | note st e he =>
    refine ⟨[e], rfl, fun e' he' => ?_⟩
    cases List.mem_singleton.mp he'
    exact isNote_isFin he
  | acceptDone op h r res extra hx =>
    refine ⟨extra ++ [.done r.rid r.style res s.now], List.append_cons .., fun e he => ?_⟩
    rcases List.mem_append.mp he with h | h
    · rcases hx with rfl | ⟨_, rfl⟩
      · cases h
      · cases List.mem_singleton.mp h; rfl
    · cases List.mem_singleton.mp h; rfl
  | abort held ha =>
    refine ⟨doneEntries s .shutdown (inflightReqs s ++ reqsOf s.queue), rfl, fun e he => ?_⟩
    obtain ⟨r, _, rfl⟩ := mem_doneEntries.mp he
    rfl

theorem stepBase_log (s : State σ) (st : Step) :
    ∃ unew, (stepBase s st).log = unew ++ s.log ∧ ∀ e ∈ unew, e.isFin = false := by
  cases st with
  | advance ms => exact ⟨[], rfl, by simp⟩
  | _ => exact (applyStep_cases s _).log

theorem taskLog_cons (F : Framing σ) (s : State σ) (st : Step) (rest : List Step) :
    ∃ new, (stepState F s st).log = new ++ (stepBase s st).log
      ∧ taskLog F s (st :: rest) = taskLog F (stepState F s st) rest ++ new := by
  have : ∃ new, (stepState F s st).log = new ++ (stepBase s st).log := by
    cases st with
    | advance ms => exact advance_taskInv (log_ext_taskInv F s) _ _ s ⟨[], rfl⟩
    | _ => exact settled_inv (log_ext_taskInv F _) _ ⟨[], rfl⟩
  obtain ⟨new, hn⟩ := this
  exact ⟨new, hn, by simp only [taskLog, hn, logSince_append]⟩

/-- the task log of a run is the log of the run without what the script steps logged themselves:
    a sublist of it that has all its `.fin` entries, in the same order -/
theorem taskLog_fins (F : Framing σ) (s : State σ) (steps : List Step) :
    List.Sublist (taskLog F s steps ++ s.log) (runState F s steps).log
      ∧ (runState F s steps).log.filter (·.isFin)
          = (taskLog F s steps).filter (·.isFin) ++ s.log.filter (·.isFin) := by
  induction steps generalizing s with
  | nil => exact ⟨by simp [taskLog, runState], by simp [taskLog, runState]⟩
  | cons st rest ih =>
    obtain ⟨ih1, ih2⟩ := ih (stepState F s st)
    obtain ⟨unew, hu, hfin⟩ := stepBase_log s st
    obtain ⟨new, hn, htl⟩ := taskLog_cons F s st rest
    have hrun : runState F s (st :: rest) = runState F (stepState F s st) rest := rfl
    have hlog : (stepState F s st).log = new ++ (unew ++ s.log) := by rw [hn, hu]
    rw [hrun, htl]
    constructor
    · refine List.Sublist.trans ?_ ih1
      rw [hlog, List.append_assoc]
      refine List.Sublist.append (List.Sublist.refl _) (List.Sublist.append (List.Sublist.refl _) ?_)
      exact List.sublist_append_right _ _
    · rw [ih2, hlog]
      have : unew.filter (·.isFin) = [] := by
        rw [List.filter_eq_nil_iff]
        intro e he; simp [hfin e he]
      simp [List.filter_append, this]

theorem stepBase_done_cause (s : State σ) (st : Step) (e : LogEntry) (he : e.isDone = true)
    (h : e ∈ (stepBase s st).log) : e ∈ s.log ∨ UserDone e := by
  cases st with
  | advance ms => exact Or.inl h
  | _ => all_goals exact applyStep_done_cause s _ e he h

theorem taskLog_done (F : Framing σ) (s : State σ) (steps : List Step) (e : LogEntry)
    (he : e.isDone = true) (h : e ∈ (runState F s steps).log) :
    e ∈ taskLog F s steps ∨ e ∈ s.log ∨ UserDone e := by
  induction steps generalizing s with
  | nil => exact Or.inr (Or.inl h)
  | cons st rest ih =>
    have h' : e ∈ (runState F (stepState F s st) rest).log := h
    obtain ⟨new, hn, htl⟩ := taskLog_cons F s st rest
    rw [htl]
    rcases ih _ h' with h1 | h1 | h1
    · exact Or.inl (List.mem_append_left _ h1)
    · rw [hn] at h1
      rcases List.mem_append.mp h1 with h2 | h2
      · exact Or.inl (List.mem_append_right _ h2)
      · exact Or.inr (stepBase_done_cause s st e he h2)
    · exact Or.inr (Or.inr h1)

end

end Rodbus.Client
