import RodbusModel.Lemmas.ClientCore
/-
  Invariants of the client task model, proved on the abstract transition system of
  Lemmas/ClientCore (`Reach`, `TEff`, `UEff`), and the two histories that only grow along the runs
  of the concrete machine: the log, and `accepted`, which only the script steps write.
-/
namespace Rodbus.Client

@[simp] theorem doneIds_doneEntry (c : Core) (r : Req) (res : Res) (l : List LogEntry) :
    doneIds (doneEntry c r res :: l) = r.rid :: doneIds l := rfl

theorem doneIds_cons_of_not_done (e : LogEntry) (l : List LogEntry) (h : e.isDone = false) :
    doneIds (e :: l) = doneIds l := by
  cases e <;> simp_all [doneIds, LogEntry.isDone]

@[simp] theorem doneIds_fin (k : EndKind) (t : Nat) (l : List LogEntry) :
    doneIds (.fin k t :: l) = doneIds l := rfl

@[simp] theorem doneIds_tx (b : Bytes) (l : List LogEntry) : doneIds (.tx b :: l) = doneIds l := rfl

theorem doneIds_append (a b : List LogEntry) : doneIds (a ++ b) = doneIds a ++ doneIds b := by
  induction a with
  | nil => rfl
  | cons e a ih => cases e <;> simp [doneIds, ih]

theorem doneIds_of_not_done (a : List LogEntry) (h : ∀ e ∈ a, e.isDone = false) :
    doneIds a = [] := by
  induction a with
  | nil => rfl
  | cons e a ih =>
    rw [doneIds_cons_of_not_done e a (h e (by simp))]
    exact ih (fun x hx => h x (by simp [hx]))

theorem doneIds_shutdownEntries (c : Core) (rs : List Req) :
    doneIds (shutdownEntries c rs) = (rs.map (·.rid)).reverse := by
  unfold shutdownEntries
  induction rs with
  | nil => rfl
  | cons r rs ih =>
    simp only [List.map_cons, List.reverse_cons, doneIds_append, ih]
    rfl

theorem queueIds_cons_req (r : Req) (q : List Cmd) : queueIds (.req r :: q) = r.rid :: queueIds q :=
  rfl

theorem reqsOf_cons_other (x : Cmd) (q : List Cmd) (h : x.isReq = false) :
    reqsOf (x :: q) = reqsOf q := by
  cases x <;> first | rfl | simp [Cmd.isReq] at h

theorem queueIds_cons_other (x : Cmd) (q : List Cmd) (h : x.isReq = false) :
    queueIds (x :: q) = queueIds q :=
  congrArg (List.map Req.rid) (reqsOf_cons_other x q h)

theorem reqsOf_append (a b : List Cmd) : reqsOf (a ++ b) = reqsOf a ++ reqsOf b := by
  induction a with
  | nil => rfl
  | cons c cs ih => cases c <;> simp [reqsOf, ih]

theorem queueIds_append (a b : List Cmd) : queueIds (a ++ b) = queueIds a ++ queueIds b := by
  simp [queueIds, reqsOf_append]

theorem queueIds_snoc_req (q : List Cmd) (r : Req) : queueIds (q ++ [.req r]) = queueIds q ++ [r.rid] := by
  rw [queueIds_append]; rfl

theorem queueIds_snoc_other (q : List Cmd) (x : Cmd) (h : x.isReq = false) :
    queueIds (q ++ [x]) = queueIds q := by
  rw [queueIds_append, queueIds_cons_other x [] h]; simp [queueIds, reqsOf]

theorem inflightIds_eq_map (p : Pos) : inflightIds p = (inflightReqsOf p).map (·.rid) := by
  cases p <;> rfl

/-- C10, exactly once: per request id, completions + queued + in flight = accepted submissions -/
def Bal (c : Core) : Prop :=
  ∀ rid, (doneIds c.log).count rid + (queueIds c.queue).count rid + (inflightIds c.pos).count rid
    = c.accepted.count rid

theorem bal_teff (c c' : Core) (hb : Bal c) (e : TEff c c') : Bal c' := by
  intro rid
  have := hb rid
  cases e with
  | quiet => exact this
  | commit dl ha hp | startSession m ha hp | startWait ha hp | startFail ms ha hp =>
    rw [hp] at this; exact this
  | phaseEnd k ha hi hn => rw [hi] at this; exact this
  | phaseEndCmd k x q ha hi hn hq hx =>
    rw [hq, queueIds_cons_other x q hx, hi] at this; exact this
  | setting x q ha hi hn hq hx =>
    rw [hq, queueIds_cons_other x q hx] at this; exact this
  | noConn r q ha hp hq =>
    rw [hq, queueIds_cons_req] at this
    simp [List.count_cons] at this ⊢
    omega
  | send m r q bytes logged ha hp hq =>
    rw [hq, queueIds_cons_req, hp] at this
    cases logged <;> simp [List.count_cons, inflightIds] at this ⊢ <;> omega
  | dequeueFail m r q res ha hp hq hres =>
    rw [hq, queueIds_cons_req, hp] at this
    simp only [afterCore_parts]
    simp [List.count_cons, inflightIds] at this ⊢
    omega
  | finish m r tx dl res ha hp ht h1 h2 =>
    rw [hp] at this
    simp only [afterCore_parts]
    simp [List.count_cons, inflightIds] at this ⊢
    omega
  | time t h1 h2 => exact this

theorem bal_ueff (c c' : Core) (hb : Bal c) (e : UEff c c') : Bal c' := by
  intro rid
  have := hb rid
  cases e with
  | quiet => exact this
  | note e he => simpa [doneIds_cons_of_not_done e c.log he] using this
  | acceptDone r res extra hex hres =>
    simp [doneIds_append, doneIds_of_not_done extra hex, List.count_cons] at this ⊢
    omega
  | acceptQueue r ha =>
    simp [queueIds_snoc_req, List.count_cons, List.count_append] at this ⊢
    omega
  | enqueueCmd x ha hx => simpa [queueIds_snoc_other c.queue x hx] using this
  | abort ha =>
    rw [inflightIds_eq_map] at this
    simp [doneIds_append, doneIds_shutdownEntries, List.count_append, inflightIds, queueIds, reqsOf]
      at this ⊢
    omega

theorem bal_reach (c : Core) (h : Reach c) : Bal c :=
  Reach.induct (fun m rid => by simp [Core.init, doneIds, queueIds, reqsOf, inflightIds])
    bal_teff bal_ueff c h

/-- once the task is gone nothing is pending; the clock never passes the deadline of the request in
    flight -/
structure Tidy (c : Core) : Prop where
  gone : c.alive = false → c.queue = [] ∧ c.pos = .noPhase
  deadline : ∀ {m r tx dl}, c.pos = .inflight m r tx dl → c.now ≤ dl

theorem tidy_of_not_inflight {c : Core} (ha : c.alive = true) (hp : inflightIds c.pos = []) :
    Tidy c :=
  ⟨fun h => absurd (ha.symm.trans h) (by simp), fun h => by rw [h] at hp; cases hp⟩

theorem Tidy.alive {c : Core} (h : Tidy c) {m : Nat} {r : Req} {tx dl : Nat}
    (hp : c.pos = .inflight m r tx dl) : c.alive = true := by
  cases hc : c.alive
  · have := (h.gone hc).2; rw [hp] at this; cases this
  · rfl

theorem tidy_teff (c c' : Core) (hb : Tidy c) (e : TEff c c') : Tidy c' := by
  obtain ⟨h1, h2⟩ := hb
  cases e with
  | quiet => exact ⟨h1, h2⟩
  | commit dl ha hp | startSession m ha hp | startWait ha hp | startFail ms ha hp
  | phaseEnd k ha hi hn | phaseEndCmd k x q ha hi hn hq hx => exact tidy_of_not_inflight ha rfl
  | setting x q ha hi hn hq hx | noConn r q ha hp hq => exact ⟨by simp [ha], h2⟩
  | send m r q bytes logged ha hp hq =>
    refine ⟨by simp [ha], ?_⟩
    intro m' r' tx' dl' h
    simp at h
    obtain ⟨_, _, _, h4⟩ := h
    simp; omega
  | dequeueFail m r q res ha hp hq hres | finish m r tx dl res ha hp ht h3 h4 =>
    exact tidy_of_not_inflight (by simp only [afterCore_parts, ha]) (by simp only [afterCore_parts])
  | time t ht1 ht2 =>
    refine ⟨h1, fun {m r tx dl} hp => ?_⟩
    have hal : c.alive = true := Tidy.alive ⟨h1, h2⟩ hp
    exact ht2 dl (by simp [Core.timer, hal, show c.pos = _ from hp]) (h2 hp)

theorem tidy_ueff (c c' : Core) (hb : Tidy c) (e : UEff c c') : Tidy c' := by
  obtain ⟨h1, h2⟩ := hb
  cases e with
  | acceptQueue r ha => exact ⟨by simp [ha], h2⟩
  | enqueueCmd x ha hx => exact ⟨by simp [ha], h2⟩
  | abort ha => exact ⟨fun _ => ⟨rfl, rfl⟩, nofun⟩
  | _ => exact ⟨h1, h2⟩

theorem tidy_reach (c : Core) (h : Reach c) : Tidy c :=
  Reach.induct (fun m => ⟨by simp [Core.init], by simp [Core.init]⟩) tidy_teff tidy_ueff c h

/-- requests are taken from the queue in submission order, and what is written is a subsequence of
    what was taken (all lists newest first) -/
def Fifo (c : Core) : Prop :=
  List.Sublist (c.sent.map fun x => (x.1, x.2.1)) c.dequeued
    ∧ List.Sublist ((queueIds c.queue).reverse ++ c.dequeued.map (·.1)) c.accepted

theorem fifo_teff (c c' : Core) (hb : Fifo c) (e : TEff c c') : Fifo c' := by
  obtain ⟨h1, h2⟩ := hb
  cases e with
  | phaseEndCmd k x q ha hi hn hq hx | setting x q ha hi hn hq hx =>
    rw [hq, queueIds_cons_other x q hx] at h2; exact ⟨h1, h2⟩
  | noConn r q ha hp hq =>
    rw [hq, queueIds_cons_req] at h2
    refine ⟨h1, List.Sublist.trans ?_ h2⟩
    simp only [List.reverse_cons, List.append_assoc]
    exact List.Sublist.append (List.Sublist.refl _) (by simp)
  | send m r q bytes logged ha hp hq =>
    rw [hq, queueIds_cons_req] at h2
    refine ⟨by simpa using h1, ?_⟩
    simpa [List.reverse_cons, List.append_assoc] using h2
  | dequeueFail m r q res ha hp hq hres =>
    rw [hq, queueIds_cons_req] at h2
    simp only [Fifo, afterCore_parts]
    refine ⟨List.Sublist.cons _ h1, ?_⟩
    simpa [List.reverse_cons, List.append_assoc] using h2
  | finish m r tx dl res ha hp ht h3 h4 =>
    simp only [Fifo, afterCore_parts]
    exact ⟨h1, h2⟩
  | _ => exact ⟨h1, h2⟩

theorem fifo_ueff (c c' : Core) (hb : Fifo c) (e : UEff c c') : Fifo c' := by
  obtain ⟨h1, h2⟩ := hb
  cases e with
  | acceptDone r res extra hex hres => exact ⟨h1, List.Sublist.cons _ h2⟩
  | acceptQueue r ha =>
    refine ⟨h1, ?_⟩
    simp only [queueIds_snoc_req, List.reverse_append, List.reverse_cons, List.reverse_nil,
      List.nil_append, List.cons_append]
    exact List.Sublist.cons_cons _ h2
  | enqueueCmd x ha hx =>
    refine ⟨h1, ?_⟩
    simp only [queueIds_snoc_other c.queue x hx]; exact h2
  | abort ha =>
    refine ⟨h1, List.Sublist.trans ?_ h2⟩
    simp [queueIds, reqsOf]
  | _ => exact ⟨h1, h2⟩

theorem fifo_reach (c : Core) (h : Reach c) : Fifo c :=
  Reach.induct (fun m => by simp [Fifo, Core.init, queueIds, reqsOf]) fifo_teff fifo_ueff c h

/-- the tx ids drawn so far, oldest first, are 0, 1, 2, … modulo 65536, and the counter holds the
    next one -/
def TxSeq (c : Core) : Prop :=
  c.tx = c.dequeued.length % 65536
    ∧ c.dequeued.reverse.map (·.2) = (List.range c.dequeued.length).map (· % 65536)

theorem nextTx_mod (n : Nat) : nextTx (n % 65536) = (n + 1) % 65536 := by
  unfold nextTx; split <;> omega

theorem txSeq_push (c : Core) (rid : Rid) (h : TxSeq c) :
    nextTx c.tx = ((rid, c.tx) :: c.dequeued).length % 65536
      ∧ ((rid, c.tx) :: c.dequeued).reverse.map (·.2)
          = (List.range ((rid, c.tx) :: c.dequeued).length).map (· % 65536) := by
  obtain ⟨h1, h2⟩ := h
  refine ⟨by rw [h1, nextTx_mod]; simp, ?_⟩
  simp only [List.reverse_cons, List.map_append, h2, List.length_cons, List.range_succ,
    List.map_cons, List.map_nil, h1]

theorem txSeq_teff (c c' : Core) (hb : TxSeq c) (e : TEff c c') : TxSeq c' := by
  cases e with
  | send m r q bytes logged ha hp hq => exact txSeq_push c r.rid hb
  | dequeueFail m r q res ha hp hq hres =>
    simp only [TxSeq, afterCore_parts]
    exact txSeq_push c r.rid hb
  | finish m r tx dl res ha hp ht h3 h4 =>
    simp only [TxSeq, afterCore_parts]
    exact hb
  | _ => exact hb

theorem txSeq_ueff (c c' : Core) (hb : TxSeq c) (e : UEff c c') : TxSeq c' := by
  cases e <;> exact hb

theorem txSeq_reach (c : Core) (h : Reach c) : TxSeq c :=
  Reach.induct (fun m => by simp [TxSeq, Core.init]) txSeq_teff txSeq_ueff c h

def Outstanding (c : Core) : Prop :=
  ∀ x ∈ c.sent, x.1 ∈ doneIds c.log ∨ x.1 ∈ inflightIds c.pos

theorem out_teff (c c' : Core) (hb : Outstanding c) (e : TEff c c') : Outstanding c' := by
  unfold Outstanding at hb ⊢
  cases e with
  | commit dl ha hp | startSession m ha hp | startWait ha hp | startFail ms ha hp =>
    rw [hp] at hb; exact hb
  | phaseEnd k ha hi hn | phaseEndCmd k x q ha hi hn hq hx => rw [hi] at hb; exact hb
  | noConn r q ha hp hq =>
    intro x hx; have := hb x hx
    rcases this with h | h
    · exact Or.inl (by simp [h])
    · exact Or.inr h
  | send m r q bytes logged ha hp hq =>
    intro x hx
    simp only [List.mem_cons] at hx
    rcases hx with rfl | hx
    · exact Or.inr (by simp [inflightIds])
    · have := hb x hx
      rw [hp] at this
      simp only [inflightIds, List.not_mem_nil, or_false] at this
      left
      cases logged <;> simp [this]
  | dequeueFail m r q res ha hp hq hres =>
    intro x hx
    simp only [afterCore_parts] at hx ⊢
    have := hb x hx
    rw [hp] at this
    simp only [inflightIds, List.not_mem_nil, or_false] at this
    left; simp [this]
  | finish m r tx dl res ha hp ht h3 h4 =>
    intro x hx
    simp only [afterCore_parts] at hx ⊢
    have := hb x hx
    rw [hp] at this
    left
    simp only [inflightIds, List.mem_singleton] at this
    rcases this with h | h <;> simp [h]
  | _ => exact hb

theorem out_ueff (c c' : Core) (hb : Outstanding c) (e : UEff c c') : Outstanding c' := by
  cases e with
  | note e he =>
    intro x hx; have := hb x hx
    simpa [doneIds_cons_of_not_done e c.log he] using this
  | acceptDone r res extra hex hres =>
    intro x hx; have := hb x hx
    rcases this with h | h
    · left; simp [doneIds_append, doneIds_of_not_done extra hex, h]
    · exact Or.inr h
  | abort ha =>
    intro x hx; have := hb x hx
    left
    simp only [doneIds_append, doneIds_shutdownEntries, List.mem_append, List.mem_reverse,
      List.map_append]
    rcases this with h | h
    · exact Or.inr h
    · rw [inflightIds_eq_map] at h; exact Or.inl (Or.inl h)
  | _ => exact hb

theorem out_reach (c : Core) (h : Reach c) : Outstanding c :=
  Reach.induct (fun m => by simp [Outstanding, Core.init]) out_teff out_ueff c h

/-- the deadline of the request in flight was fixed when it was written
    (write time + its timeout) and never changes -/
theorem teff_deadline (c c' : Core) (t : TEff c c') (m : Nat) (r : Req) (tx dl : Nat)
    (h : c'.pos = .inflight m r tx dl) :
    c.pos = .inflight m r tx dl ∨ (c.pos = .idle m ∧ dl = c.now + r.timeout ∧ tx = c.tx
      ∧ ∃ bytes, c'.sent = (r.rid, tx, bytes) :: c.sent) := by
  have after : ∀ c0 m0 res, (afterCore c0 m0 res).pos ≠ .inflight m r tx dl := fun c0 m0 res he => by
    have : inflightIds (afterCore c0 m0 res).pos = [] := by simp only [afterCore_parts]
    rw [he] at this
    cases this
  cases t with
  | commit dl' ha hp | startSession m' ha hp | startWait ha hp | startFail ms ha hp
  | phaseEnd k ha hi hn | phaseEndCmd k x q ha hi hn hq hx => cases h
  | send m' r' q bytes logged ha hp hq =>
    simp only [Pos.inflight.injEq] at h
    obtain ⟨rfl, rfl, rfl, rfl⟩ := h
    exact Or.inr ⟨hp, rfl, rfl, bytes, rfl⟩
  | dequeueFail m' r' q res ha hp hq hres | finish m' r' tx' dl' res ha hp ht h3 h4 =>
    exact absurd h (after _ m' res)
  | _ => exact Or.inl h

theorem teff_sent_mono {c c' : Core} (t : TEff c c') : ∀ x ∈ c.sent, x ∈ c'.sent := by
  intro x hx
  cases t with
  | send m r q bytes logged ha hp hq => exact List.mem_cons_of_mem _ hx
  | dequeueFail m r q res ha hp hq hres | finish m r tx dl res ha hp ht h3 h4 =>
    simp only [afterCore_parts]; exact hx
  | _ => exact hx

theorem ueff_sent {c c' : Core} (t : UEff c c') : c'.sent = c.sent := by
  cases t <;> rfl

theorem steps_sent_mono {c c' : Core} (h : Steps c c') : ∀ x ∈ c.sent, x ∈ c'.sent := by
  induction h with
  | refl => exact fun _ hx => hx
  | tail _ e ih =>
    intro x hx
    rcases e with e | e
    · exact teff_sent_mono e x (ih x hx)
    · rw [ueff_sent e]; exact ih x hx

/-- the request in flight has been written with the transaction id it is in flight with -/
theorem inflightSent_reach (c : Core) (h : Reach c) :
    ∀ m r tx dl, c.pos = .inflight m r tx dl → ∃ bytes, (r.rid, tx, bytes) ∈ c.sent := by
  refine Reach.induct
    (P := fun c => ∀ m r tx dl, c.pos = .inflight m r tx dl → ∃ bytes, (r.rid, tx, bytes) ∈ c.sent)
    ?_ ?_ ?_ c h
  · intro m m' r tx dl hp; simp [Core.init] at hp
  · intro c c' ih t m r tx dl hp
    rcases teff_deadline c c' t m r tx dl hp with h1 | ⟨_, _, _, bytes, h4⟩
    · obtain ⟨bytes, hb⟩ := ih m r tx dl h1
      exact ⟨bytes, teff_sent_mono t _ hb⟩
    · exact ⟨bytes, by rw [h4]; simp⟩
  · intro c c' ih t m r tx dl hp
    rw [ueff_sent t]
    cases t with
    | abort ha => simp at hp
    | _ => exact ih m r tx dl hp

/-- while a request is in flight the task does not touch the queue: a queued command (a set-decode
    command like any other) waits until the transaction is over -/
theorem teff_inflight_queue {c c' : Core} (e : TEff c c') {m : Nat} {r : Req} {tx dl : Nat}
    (hp : c.pos = .inflight m r tx dl) : c'.queue = c.queue := by
  cases e with
  | quiet | time => rfl
  | finish => simp only [afterCore_parts]
  | phaseEnd _ _ hi | phaseEndCmd _ _ _ _ hi | setting _ _ _ hi =>
    exact absurd ((congrArg inflightIds hp).symm.trans hi) (List.cons_ne_nil _ _)
  | noConn _ _ _ hp' => rcases hp' with hp' | ⟨_, _, hp'⟩ <;> exact absurd (hp.symm.trans hp') nofun
  | commit _ _ hp' | startSession _ _ hp' | startWait _ hp' | startFail _ _ hp' | send _ _ _ _ _ _ hp'
  | dequeueFail _ _ _ _ _ hp' => cases hp.symm.trans hp'

theorem teff_log_ext {c c' : Core} (t : TEff c c') : ∃ new, c'.log = new ++ c.log := by
  cases t with
  | phaseEnd k ha hi hn | phaseEndCmd k x q ha hi hn hq hx | noConn r q ha hp hq => exact ⟨[_], rfl⟩
  | send m r q bytes logged ha hp hq =>
    cases logged
    · exact ⟨[], rfl⟩
    · exact ⟨[_], rfl⟩
  | dequeueFail m r q res ha hp hq hres =>
    obtain ⟨fin, _, h⟩ := afterCore_log
      { c with queue := q, tx := nextTx c.tx, dequeued := (r.rid, c.tx) :: c.dequeued,
               log := doneEntry c r res :: c.log } m res
    exact ⟨fin ++ [doneEntry c r res], by rw [h]; simp⟩
  | finish m r tx dl res ha hp ht h3 h4 =>
    obtain ⟨fin, _, h⟩ := afterCore_log { c with log := doneEntry c r res :: c.log } m res
    exact ⟨fin ++ [doneEntry c r res], by rw [h]; simp⟩
  | _ => exact ⟨[], rfl⟩

theorem log_ext_taskInv {σ : Type} (F : Framing σ) (x : State σ) :
    TaskInv F (fun t => ∃ new, t.log = new ++ x.log) :=
  TaskInv.of_core F (P := fun c => ∃ new, c.log = new ++ x.log) fun c c' ⟨n1, h1⟩ e =>
    let ⟨n2, h2⟩ := teff_log_ext e
    ⟨n2 ++ n1, by rw [h2, h1, List.append_assoc]⟩

theorem teff_accepted (c c' : Core) (e : TEff c c') : c'.accepted = c.accepted := by
  cases e with
  | dequeueFail m r q res ha hp hq hres | finish m r tx dl res ha hp ht h3 h4 =>
    simp only [afterCore_parts]
  | _ => rfl

def scriptRids : List Step → List Rid
  | [] => []
  | .submit _ _ r :: rest => r.rid :: scriptRids rest
  | _ :: rest => scriptRids rest

section
variable {σ : Type}

theorem Applied.accepted {s t : State σ} {st : Step} (h : Applied s st t) (rid : Rid) :
    t.accepted.count rid ≤ s.accepted.count rid + (scriptRids [st]).count rid := by
  cases h with
  | acceptDone | acceptQueue => simp [scriptRids, List.count_cons]
  | _ => exact Nat.le_add_right _ _

theorem accepted_taskInv (F : Framing σ) (Q : List Rid → Prop) :
    TaskInv F (fun t => Q t.accepted) :=
  TaskInv.of_core F (P := fun c => Q c.accepted) fun c c' h e => teff_accepted c c' e ▸ h

theorem stepState_accepted (F : Framing σ) (s : State σ) (st : Step) (rid : Rid) :
    (stepState F s st).accepted.count rid ≤ s.accepted.count rid + (scriptRids [st]).count rid :=
  stepState_taskInv
    (accepted_taskInv F fun a => a.count rid ≤ s.accepted.count rid + (scriptRids [st]).count rid)
    s st (Nat.le_add_right _ _) ((applyStep_cases s st).accepted rid)

theorem scriptRids_cons (st : Step) (rest : List Step) :
    scriptRids (st :: rest) = scriptRids [st] ++ scriptRids rest := by
  cases st <;> simp [scriptRids]

theorem scriptRids_append (a b : List Step) : scriptRids (a ++ b) = scriptRids a ++ scriptRids b := by
  induction a with
  | nil => rfl
  | cons st rest ih => rw [List.cons_append, scriptRids_cons, scriptRids_cons st rest, ih]; simp

theorem runState_accepted (F : Framing σ) (s : State σ) (steps : List Step) (rid : Rid) :
    (runState F s steps).accepted.count rid ≤ s.accepted.count rid + (scriptRids steps).count rid := by
  induction steps generalizing s with
  | nil => simp [runState, scriptRids]
  | cons st rest ih =>
    have h1 := stepState_accepted F s st rid
    have h2 := ih (stepState F s st)
    rw [scriptRids_cons, List.count_append]
    simp only [runState, List.foldl_cons] at h2 ⊢
    omega

theorem accepted_nodup (F : Framing σ) (cap maxTo : Nat) (d : Decode) (coins : List Bool)
    (steps : List Step) (h : (scriptRids steps).Nodup) :
    (runState F (State.init F cap maxTo d coins) steps).accepted.Nodup := by
  rw [List.nodup_iff_count]
  intro rid
  have := runState_accepted F (State.init F cap maxTo d coins) steps rid
  have h2 := List.nodup_iff_count.mp h rid
  have h3 : (State.init F cap maxTo d coins).accepted = [] := rfl
  rw [h3] at this
  simp at this
  omega

theorem nodup_map_inj {α β : Type} {f : α → β} {l : List α} (h : (l.map f).Nodup) :
    ∀ ⦃x⦄, x ∈ l → ∀ ⦃y⦄, y ∈ l → f x = f y → x = y :=
  have hp := List.pairwise_map.1 h
  List.Pairwise.forall_of_forall_of_flip (fun _ _ _ => rfl) (hp.imp fun hne he => absurd he hne)
    (hp.imp fun hne he => absurd he.symm hne)

end

end Rodbus.Client
