import RodbusModel.Lemmas.LifecycleInv
/-
  The invariants of `Life` runs behind C13, each a case analysis on `Eff`: well-formedness
  (`runInv`: the announced states form a legal path and fit the phase), accounting (`accInv`:
  submitted = completed + queued), termination once the task is doomed (`runStops_kill`),
  failing fast while not connected (`advance_failFast`), and nothing but `shutdown` after
  `Shutdown` (`C13.shutInv`, for the checker `Spec.LifeObs.afterShutdownOk`); a request is submitted
  at most as often as the script submits it (the one run fact that is not an `Inv`: its bound
  mentions the script).
-/
namespace Rodbus.Life
open Rodbus.Spec.Life

/-- the phase `ph` may follow the announcement of `l`: it is the phase the callback of `l` leads to,
    or one the task moves on to from there without a further announcement -/
def phaseOk (l : St) : Phase → Bool
  | .waitEnabled => match l with | .disabled | .waitFail _ | .waitDisc _ => true | _ => false
  | .connect => match l with | .connecting => true | _ => false
  | .sessionStart b | .session b => (match l with | .connected => true | _ => false) && !b.fails
  | .failFor => match l with | .waitFail _ | .waitDisc _ => true | _ => false
  | .afterDisable =>
    match l with | .connecting | .connected | .waitFail _ | .waitDisc _ => true | _ => false
  | .finished => match l with | .shutdown => true | _ => false

/-- phases in which the task holds (or is establishing, or is waiting to re-establish) a connection -/
def needsEnabled : Phase → Bool
  | .connect | .sessionStart _ | .session _ | .failFor => true
  | _ => false

/-- invariant at an iteration of `advance`; `l` is the state announced last -/
structure PhaseInv (l : St) (ph : Phase) (c : Core) : Prop where
  fits : phaseOk l ph = true
  enabled : needsEnabled ph = true → c.enabled = true
  disabled : ph = .afterDisable → c.enabled = false
  alive : c.alive = true

theorem PhaseInv.frame {l ph c c'} (h : PhaseInv l ph c) (he : c'.enabled = c.enabled)
    (ha : c'.alive = c.alive) : PhaseInv l ph c' :=
  ⟨h.fits, he ▸ h.enabled, he ▸ h.disabled, ha ▸ h.alive⟩

/-- invariant in the callback that announces `st`; `l` is the state announced before it (`none` at
    the start).  `connected`: the queue was drained before the connect result was looked at. -/
structure GateInv (l : Option St) (c : Core) (st : St) (next : Phase) : Prop where
  legal : match l with | none => st = .disabled | some l' => legalNext l' st = true
  phase : PhaseInv st next c
  disabled : st = .disabled → c.enabled = false
  connecting : st = .connecting → c.enabled = true
  connected : st = .connected → c.queue = []

/-- invariant at a blocking point; `l` is the state announced last -/
def PosInv (l : Option St) (c : Core) : Pos → Prop
  | .gate st next => GateInv l c st next
  | .idle ph => ∃ l', l = some l' ∧ PhaseInv l' ph c
  | .done => l = some .shutdown ∧ c.alive = false ∧ c.queue = []

theorem phaseOk_reads {l ph c} (hr : Reads ph c) (h : phaseOk l ph = true) :
    legalNext l .shutdown = true ∧ (ph ≠ .waitEnabled → phaseOk l .afterDisable = true) := by
  cases ph <;> cases l <;> simp_all [Reads, phaseOk, legalNext]

theorem phaseOk_waitEnabled {l} (h : phaseOk l .waitEnabled = true) : legalNext l .connecting = true := by
  cases l <;> first | rfl | cases h

theorem phaseOk_connect {l} (h : phaseOk l .connect = true) : l = .connecting := by
  cases l <;> first | rfl | cases h

theorem phaseOk_session {l b} (h : phaseOk l (.session b) = true) : l = .connected := by
  cases l <;> first | rfl | cases h

theorem phaseOk_failFor {l} (h : phaseOk l .failFor = true) : phaseOk l .waitEnabled = true := by
  cases l <;> first | rfl | cases h

theorem phaseOk_afterDisable {l} (h : phaseOk l .afterDisable = true) : legalNext l .disabled = true := by
  cases l <;> first | rfl | cases h

theorem phaseOk_finished {l} (h : phaseOk l .finished = true) : l = .shutdown := by
  cases l <;> first | rfl | cases h

/-- each effect announces only what `legalNext` allows after the state announced last, and goes on
    in a phase that fits -/
theorem Eff.inv {l ph c nx c'} (h : Eff ph c nx c') (hi : PhaseInv l ph c) :
    nx.sat (PhaseInv l) (PosInv (some l)) c' := by
  obtain ⟨hp, he, hd, ha⟩ := hi
  cases h with
  | orphaned _ _ hr | shutdown _ _ _ hr =>
    exact ⟨(phaseOk_reads hr hp).1, ⟨rfl, nofun, nofun, ha⟩, nofun, nofun, nofun⟩
  | disable _ _ _ hr hne => exact ⟨(phaseOk_reads hr hp).2 hne, nofun, fun _ => rfl, ha⟩
  | sleep | stuck => exact ⟨l, rfl, hp, he, hd, ha⟩
  | skip | answer => exact ⟨hp, he, hd, ha⟩
  | enable => exact ⟨hp, nofun, nofun, ha⟩
  | begin => exact ⟨hp, fun _ => he rfl, nofun, ha⟩
  | timer => exact ⟨phaseOk_failFor hp, nofun, nofun, ha⟩
  | finish => exact ⟨congrArg some (phaseOk_finished hp), rfl, rfl⟩
  | disabled =>
    exact ⟨phaseOk_afterDisable hp, ⟨rfl, nofun, nofun, ha⟩, fun _ => hd rfl, nofun, nofun⟩
  | dial _ _ hen =>
    exact ⟨phaseOk_waitEnabled hp, ⟨rfl, fun _ => hen, nofun, ha⟩, nofun, fun _ => hen, nofun⟩
  | failed =>
    obtain rfl := phaseOk_connect hp
    exact ⟨rfl, ⟨rfl, fun _ => he rfl, nofun, ha⟩, nofun, nofun, nofun⟩
  | connected _ hq _ hb =>
    obtain rfl := phaseOk_connect hp
    exact ⟨rfl, ⟨by simp [phaseOk, hb], fun _ => he rfl, nofun, ha⟩, nofun, nofun, fun _ => hq⟩
  | answerLost | lost =>
    obtain rfl := phaseOk_session hp
    exact ⟨rfl, ⟨rfl, fun _ => he rfl, nofun, ha⟩, nofun, nofun, nofun⟩

def PathOk (ss : List St) : Prop := (ss.head? = some .disabled ∨ ss = []) ∧ legalPath ss = true

/-- the well-formedness invariant of a run: the announced states are a legal path, and the task
    is in a phase that fits the state announced last -/
def RunP (ph : Phase) (c : Core) : Prop :=
  PathOk (states c.log) ∧ ∃ l, (states c.log).getLast? = some l ∧ PhaseInv l ph c

structure RunQ (c : Core) (pos : Pos) : Prop where
  path : PathOk (states c.log)
  pos : PosInv (states c.log).getLast? c pos

theorem PathOk.concat {ss : List St} {st : St} (h : PathOk ss)
    (hl : match ss.getLast? with | none => st = .disabled | some l => legalNext l st = true) :
    PathOk (ss ++ [st]) := by
  unfold PathOk
  rw [legalPath_append_one, h.2]
  cases hs : ss with
  | nil => simp_all
  | cons a t =>
    have := h.1
    simp only [hs] at hl ⊢
    cases hg : (a :: t).getLast? <;> simp_all

theorem runInv : Inv RunP RunQ where
  eff h := fun ⟨hp, l, hl, hi⟩ => by
    -- the task announces nothing itself
    have hs := h.states
    exact Next.sat_imp (fun ph hph => ⟨hs ▸ hp, l, hs ▸ hl, hph⟩)
      (fun pos hpos => ⟨hs ▸ hp, by rw [hs, hl]; exact hpos⟩) (h.inv hi)
  user h := fun ⟨hp, l, hl, hi⟩ => by
    have hs := h.states
    obtain ⟨_, _, _, rfl, _⟩ := h
    exact ⟨hs ▸ hp, l, hs ▸ hl, hi.frame rfl rfl⟩
  gate := fun {c st next} ⟨hp, hg⟩ =>
    ⟨Core.announce_states c st ▸ hp.concat hg.legal, st, by simp [Core.announce_states],
      hg.phase.frame rfl rfl⟩
  idle := fun ⟨hp, hpos⟩ => by
    obtain ⟨l, hl, hi⟩ := hpos
    exact ⟨by simpa using hp, l, by simpa using hl, hi.frame rfl rfl⟩
  done := fun {c _} ⟨evs, _, hc, hq, _⟩ ⟨hp, hpos⟩ => by
    subst hc
    have hs : states (c.log ++ evs) = states c.log := states_append_quiet hq
    exact ⟨hs ▸ hp, by unfold PosInv; rw [hs]; exact hpos⟩

theorem Reachable.runQ {s pos} (h : Reachable s pos) : RunQ (core s) pos := by
  refine (runInv.reachable (fun s0 h0 => ?_) h).2
  -- nothing has been announced: `Disabled` is legal, and the disabled task waits to be enabled
  have hl : states (core s0).log = [] := congrArg states h0.log
  refine ⟨?_, ?_⟩ <;> rw [hl]
  · exact ⟨.inr rfl, rfl⟩
  · exact ⟨rfl, ⟨rfl, nofun, nofun, h0.alive⟩, fun _ => h0.enabled, nofun, nofun⟩

theorem completed_shutdownEvents (id : Nat) (q : List Cmd) :
    completed id (shutdownEvents q) = queued id q := by
  induction q with
  | nil => rfl
  | cons x q ih =>
    cases x <;> simp_all [shutdownEvents, completed, isDone, queued, List.count_cons,
      List.countP_cons]

/-- every request leaving the queue is completed exactly once -/
theorem Eff.acc {ph c nx c'} (h : Eff ph c nx c') (id : Nat) :
    completed id c'.log + queued id c'.queue = completed id c.log + queued id c.queue := by
  cases h with
  | finish => simp [completed_shutdownEvents]
  | answer _ _ _ _ _ _ hq | answerLost _ _ _ _ _ _ hq => simp [hq]; omega
  | skip _ _ _ _ _ hq hx => rcases hx with ⟨l, rfl⟩ | ⟨rfl, _⟩ | ⟨rfl, _⟩ <;> simp [hq]
  | disable _ _ _ _ _ hq | shutdown _ _ _ _ hq | enable _ _ _ hq => simp [hq]
  | _ => simp

theorem Extends.submitted {l l' : List Ev} (h : Extends isCompletion l l') (id : Nat) :
    submitted id l' = submitted id l := by
  obtain ⟨evs, rfl, he⟩ := h
  rw [submitted_append, Nat.add_eq_left]
  refine List.count_eq_zero.2 fun hm => ?_
  exact absurd (he _ hm) (by simp [isCompletion])

def RunAcc (c : Core) : Prop :=
  ∀ id, submitted id c.log = completed id c.log + queued id c.queue

theorem accInv : Inv (fun _ => RunAcc) (fun c _ => RunAcc c) where
  eff {_ _ nx _} h ha := by
    have : RunAcc _ := fun id => by rw [h.log.submitted, ha id, h.acc]
    cases nx <;> exact this
  user := fun ⟨_, _, _, hc, _, he⟩ ha id => by
    subst hc
    simp [ha id, he id]
    omega
  gate ha id := by
    unfold Core.announce
    split <;> simpa [submitted, completed, isDone] using ha id
  idle ha id := by simpa using ha id
  done := fun ⟨evs, _, hc, _, he⟩ ha id => by
    subst hc
    simp [ha id, he id]
    omega

theorem Reachable.runAcc {s pos} (h : Reachable s pos) : RunAcc (core s) :=
  (accInv.reachable (fun s0 h0 id => by simp [core, h0.queue, h0.log, submitted, completed]) h).2

/-- how far a phase is from consuming a command or ending: every effect that consumes none and
    does not block leads to a phase of lower rank (`failFor` → `waitEnabled` only while enabled) -/
def rank (ph : Phase) (en : Bool) : Nat :=
  match ph with
  | .finished => 0
  | .failFor | .connect => 1
  | .waitEnabled => if en then 2 else 1
  | .session _ => 2
  | .afterDisable | .sessionStart _ => 3

/-- a consumed command pays for whatever phase follows: `rank_le` -/
def mu (ph : Phase) (c : Core) : Nat := 3 * c.queue.length + rank ph c.enabled

def muPos (c : Core) : Pos → Nat
  | .gate _ next => mu next c + 1
  | .idle ph => mu ph c + 1
  | .done => 0

/-- the task is bound to terminate: `Shutdown` is queued or no handle is left -/
def Doomed (ph : Phase) (c : Core) : Prop :=
  (ph = .finished ∨ Cmd.shutdown ∈ c.queue ∨ c.handles = false) ∧ sessOk ph = true

def DoomedPos (c : Core) : Pos → Prop
  | .gate _ next => Doomed next c
  | .idle ph => Doomed ph c
  | .done => True

theorem rank_le (ph : Phase) (en : Bool) : rank ph en ≤ 3 := by
  cases ph <;> cases en <;> simp [rank]

theorem rank_pos_of_reads {ph c} (h : Reads ph c) : 1 ≤ rank ph c.enabled := by
  cases ph <;> simp_all [Reads, rank]

theorem Eff.doomed {ph c nx c'} (h : Eff ph c nx c') (hd : Doomed ph c) :
    nx.sat (fun ph' c' => Doomed ph' c' ∧ mu ph' c' < mu ph c)
      (fun c' pos => DoomedPos c' pos ∧ muPos c' pos ≤ mu ph c) c' := by
  obtain ⟨hk, hs⟩ := hd
  cases h with
  | sleep _ _ hr _ _ hq hh | timer _ hq hh | failed _ hq hh | connected _ _ hq hh =>
    -- not doomed: nothing queued and a live handle
    simp_all [Reads]
  | orphaned _ _ hr | shutdown _ _ _ hr =>
    -- on to `finished`, of rank 0, from a phase of rank at least 1
    have := rank_pos_of_reads hr
    simp_all [Next.sat, Doomed, DoomedPos, mu, muPos, show rank .finished c.enabled = 0 from rfl,
      show sessOk .finished = true from rfl]
    try omega
  | disable _ _ _ hr _ hq | answer _ _ _ _ _ hr hq | enable _ _ hr hq =>
    -- a command in front of the `Shutdown` is consumed: three units of the measure
    have hne : _ ≠ Phase.finished := hr.ne_finished
    have := rank_pos_of_reads hr
    have := rank_le .afterDisable false
    have := rank_le .waitEnabled true
    simp_all [Next.sat, Doomed, mu, show sessOk .afterDisable = true from rfl]
    try omega
  | skip _ _ _ _ hr hq hx =>
    have := rank_pos_of_reads hr
    have : Cmd.shutdown ∈ _ ∨ c.handles = false := hk.resolve_left hr.ne_finished
    rcases hx with ⟨l, rfl⟩ | ⟨rfl, _⟩ | ⟨rfl, _⟩ <;> simp_all [Next.sat, Doomed, mu] <;> omega
  | _ =>
    -- the other effects need not consume a command: each leads to a phase of lower rank
    simp_all [Next.sat, Doomed, DoomedPos, mu, muPos, rank, sessOk] <;> first | omega | (split <;> omega)

theorem advance_doomed (fuel : Nat) (ph : Phase) (s : S) (h : Doomed ph (core s))
    (hf : s.queue.length + need ph ≤ fuel) :
    At (fun c pos => DoomedPos c pos ∧ muPos c pos ≤ mu ph (core s)) (advance fuel ph s) :=
  (advance_eff_fuel (P := fun ph' c' => Doomed ph' c' ∧ mu ph' c' ≤ mu ph (core s))
    (Q := fun c' pos => DoomedPos c' pos ∧ muPos c' pos ≤ mu ph (core s))
    (fun _ _ _ _ he hp => Next.sat_imp (fun _ h => ⟨h.1, Nat.le_trans (Nat.le_of_lt h.2) hp.2⟩)
      (fun _ h => ⟨h.1, Nat.le_trans h.2 hp.2⟩) (he.doomed hp.1))
    fuel ph s ⟨h, Nat.le_refl _⟩ h.2 hf).2

theorem stop_empty_doomed (s : S) (pos : Pos) (h : DoomedPos (core s) pos) :
    At (fun c' pos' => DoomedPos c' pos' ∧ muPos c' pos' ≤ muPos (core s) pos - 1)
      (stop s pos []) := by
  cases pos with
  | done => exact ⟨trivial, Nat.zero_le _⟩
  | gate st next =>
    -- `Doomed` and `mu` do not look at what the callback changes
    have := advance_doomed _ next (s.report.emit (.gate st)) (by rw [core_announce]; exact h)
      (fuelFor_ge _ _)
    rwa [core_announce] at this
  | idle ph => exact advance_doomed _ ph (s.emit .idle) h (fuelFor_ge _ _)

theorem runStops_doomed (n : Nat) : ∀ (s : S) (pos : Pos), DoomedPos (core s) pos →
    muPos (core s) pos ≤ n → (runStops s pos (List.replicate n [])).2 = .done := by
  induction n with
  | zero =>
    intro s pos _ hm
    cases pos with
    | done => rfl
    | _ => simp [muPos] at hm
  | succ n ih =>
    intro s pos h hm
    obtain ⟨h1, h2⟩ := stop_empty_doomed s pos h
    exact ih _ _ h1 (by omega)

/-- number of empty stops that are enough after a `[.shutdown]` / `[.dropAll]` stop -/
def termBound (s : S) : Nat := 3 * s.queue.length + 6

/-- `Shutdown`, or the drop of every handle, dooms the task; the measure grows by the one command -/
theorem kill_doomed (s : S) (ph : Phase) (a : Action) (ha : a = .shutdown ∨ a = .dropAll)
    (hs : sessOk ph = true) :
    Doomed ph (core (applyAction s a)) ∧ mu ph (core (applyAction s a)) ≤ termBound s := by
  have := rank_le ph s.enabled
  unfold applyAction Doomed mu termBound
  rcases ha with rfl | rfl <;> cases hh : s.handles <;> simp [hh, hs, core] <;> omega

theorem stop_kill_doomed (s : S) (pos : Pos) (a : Action) (ha : a = .shutdown ∨ a = .dropAll)
    (hk : Pos.ok (core s) pos) :
    At (fun c pos => DoomedPos c pos ∧ muPos c pos ≤ termBound s) (stop s pos [a]) := by
  cases pos with
  | done => simp [At, stop, DoomedPos, muPos]
  | gate st next =>
    obtain ⟨hd, hm⟩ := kill_doomed (s.report.emit (.gate st)) next a ha hk
    have := advance_doomed _ next _ hd (fuelFor_ge _ _)
    exact ⟨this.1, Nat.le_trans this.2 (by simpa [termBound, report_eq] using hm)⟩
  | idle ph =>
    obtain ⟨hd, hm⟩ := kill_doomed (s.emit .idle) ph a ha hk.1
    have := advance_doomed _ ph _ hd (fuelFor_ge _ _)
    exact ⟨this.1, Nat.le_trans this.2 hm⟩

theorem runStops_kill (s : S) (pos : Pos) (a : Action) (ha : a = .shutdown ∨ a = .dropAll)
    (hk : Pos.ok (core s) pos) (n : Nat) (hn : termBound s ≤ n) :
    (runStops s pos ([a] :: List.replicate n [])).2 = .done := by
  rw [runStops_cons]
  have := stop_kill_doomed s pos a ha hk
  exact runStops_doomed n _ _ this.1 (Nat.le_trans this.2 hn)

def notConnected : Phase → Bool
  | .waitEnabled | .connect | .failFor | .afterDisable => true
  | _ => false

def Consumed (c c' : Core) : Prop :=
  ∃ consumed, c.queue = consumed ++ c'.queue ∧ c'.log = c.log ++ noconnEvents consumed

theorem Consumed.trans {a b c : Core} (h1 : Consumed a b) (h2 : Consumed b c) : Consumed a c := by
  obtain ⟨c1, q1, l1⟩ := h1
  obtain ⟨c2, q2, l2⟩ := h2
  exact ⟨c1 ++ c2, by rw [q1, q2, List.append_assoc], by
    rw [l2, l1, noconnEvents_append, List.append_assoc]⟩

/-- gates at which the task is blocked inside the listener callback because a command (or the
    retry timer, or the loss of all handles) changed the channel state; the rest of the queue is
    untouched and is looked at again as soon as the callback returns -/
def changeGate : Pos → Bool
  | .gate .disabled .waitEnabled | .gate .connecting .connect | .gate .shutdown .finished => true
  | _ => false

theorem changeGate_cases {pos : Pos} (h : changeGate pos = true) :
    pos = .gate .shutdown .finished ∨ pos = .gate .disabled .waitEnabled ∨
      pos = .gate .connecting .connect := by
  unfold changeGate at h
  split at h <;> simp_all

/-- while not connected an iteration consumes at most the command at the head of the queue, a
    request failing with noconn; it blocks only with an empty queue or at a state-change gate -/
theorem Eff.failFast {ph c nx c'} (h : Eff ph c nx c') (hn : notConnected ph = true) :
    Consumed c c' ∧
      nx.sat (fun ph' _ => notConnected ph' = true) (fun c' pos => changeGate pos = true ∨ c'.queue = [])
        c' := by
  have one : ∀ {x q l}, c.queue = x :: q → c'.queue = q → c'.log = c.log ++ l → noconnEvents [x] = l →
      Consumed c c' := fun hq hq' hl hx => ⟨[_], by rw [hq, hq']; rfl, by rw [hl, hx]⟩
  have none : c'.queue = c.queue → c'.log = c.log → Consumed c c' := fun hq hl =>
    ⟨[], by rw [hq]; rfl, by rw [hl]; simp⟩
  cases h with
  | shutdown _ _ _ _ hq | disable _ _ _ _ _ hq | enable _ _ _ hq =>
    exact ⟨one hq (by simp) (by simp) rfl, by first | exact Or.inl rfl | exact rfl⟩
  | skip _ _ _ _ _ hq hx =>
    exact ⟨one hq rfl (List.append_nil _).symm (by rcases hx with ⟨l, rfl⟩ | ⟨rfl, _⟩ | ⟨rfl, _⟩ <;> rfl),
      hn⟩
  | answer _ _ _ _ _ _ hq hr =>
    have : isSession ph = false := by cases ph <;> first | rfl | cases hn
    exact ⟨one hq rfl rfl (by rw [hr this]; rfl), hn⟩
  | sleep _ _ _ _ _ hq | failed _ hq | connected _ hq => exact ⟨none rfl rfl, Or.inr hq⟩
  | orphaned => exact ⟨none (by simp) (by simp), Or.inl rfl⟩
  | disabled | dial => exact ⟨none rfl rfl, Or.inl rfl⟩
  | timer => exact ⟨none rfl rfl, rfl⟩
  | finish | begin | stuck | answerLost | lost => cases hn

theorem advance_failFast (fuel : Nat) (ph : Phase) (s : S) (hn : notConnected ph = true)
    (hf : s.queue.length + need ph ≤ fuel) :
    At (fun c' pos => Consumed (core s) c' ∧ (changeGate pos = true ∨ c'.queue = []))
      (advance fuel ph s) :=
  (advance_eff_fuel (P := fun ph' c' => notConnected ph' = true ∧ Consumed (core s) c')
    (Q := fun c' pos => Consumed (core s) c' ∧ (changeGate pos = true ∨ c'.queue = []))
    (fun _ _ nx _ he hp => by
      obtain ⟨h1, h2⟩ := he.failFast hp.1
      cases nx
      · exact ⟨h2, hp.2.trans h1⟩
      · exact ⟨hp.2.trans h1, h2⟩)
    fuel ph s ⟨hn, [], rfl, by simp⟩ (by cases ph <;> first | rfl | cases hn) hf).2

/-- after the reset at its start a session does not touch the retry strategy, nor does the
    `afterDisable` it may end in -/
theorem advance_sessionStart_retry (fuel : Nat) (b : Behaviour) (s : S) :
    (advance (fuel + 1) (.sessionStart b) s).1.retry = Retry.reset s.retry := by
  refine advance_eff
    (P := fun ph c => ((∃ b, ph = .session b) ∨ ph = .afterDisable) ∧ c.retry = Retry.reset s.retry)
    (Q := fun c _ => c.retry = Retry.reset s.retry) (fun _ _ h => h.2) ?_ fuel (.session b) _
    ⟨.inl ⟨b, rfl⟩, rfl⟩
  intro ph c nx c' h ⟨hph, hr⟩
  cases h <;> simp_all [Next.sat]

/-- `f` is `applyAction` or `applyDone`: an action is logged as a submission of request `id`
    at most if it is that request -/
theorem foldl_submitted (id : Nat) (f : S → Action → S)
    (hf : ∀ s a, submitted id (f s a).log ≤ submitted id s.log + [a].count (.request id))
    (acts : List Action) (s : S) :
    submitted id (acts.foldl f s).log ≤ submitted id s.log + acts.count (.request id) := by
  induction acts generalizing s with
  | nil => simp
  | cons a acts ih =>
    have h1 := hf s a
    have h2 := ih (f s a)
    rw [List.count_cons]
    simp only [List.count_cons, List.count_nil] at h1
    simp only [List.foldl_cons]
    omega

theorem applyAction_submitted (id : Nat) (s : S) (a : Action) :
    submitted id (applyAction s a).log ≤ submitted id s.log + [a].count (.request id) := by
  unfold applyAction
  split
  · omega
  · cases a <;> simp [submitted, List.count_cons]

theorem applyDone_submitted (id : Nat) (s : S) (a : Action) :
    submitted id (applyDone s a).log ≤ submitted id s.log + [a].count (.request id) := by
  unfold applyDone
  split
  · omega
  · cases a <;> simp [submitted, List.count_cons]

theorem stop_submitted (id : Nat) (s : S) (pos : Pos) (acts : List Action) :
    submitted id (stop s pos acts).1.log ≤ submitted id s.log + acts.count (.request id) := by
  cases pos with
  | done => exact foldl_submitted id _ (applyDone_submitted id) acts s
  | gate st next =>
    simp only [stop]
    rw [(advance_log ..).submitted]
    simpa using foldl_submitted id _ (applyAction_submitted id) acts (s.report.emit (.gate st))
  | idle ph =>
    simp only [stop]
    rw [(advance_log ..).submitted]
    simpa using foldl_submitted id _ (applyAction_submitted id) acts (s.emit .idle)

theorem runStops_submitted (id : Nat) (script : List (List Action)) (s : S) (pos : Pos) :
    submitted id (runStops s pos script).1.log ≤
      submitted id s.log + script.flatten.count (.request id) := by
  induction script generalizing s pos with
  | nil => simp [runStops]
  | cons acts rest ih =>
    rw [runStops_cons]
    have h1 := ih (stop s pos acts).1 (stop s pos acts).2
    have h2 := stop_submitted id s pos acts
    simp only [List.flatten_cons, List.count_append]
    omega

end Rodbus.Life

namespace Rodbus.C13
open Rodbus.Life Rodbus.Spec.Life Rodbus.Spec.LifeObs

theorem afterShutdownOk_cons {e : Ev} (h : e ≠ .gate .shutdown) (l : List Ev) :
    afterShutdownOk (e :: l) = afterShutdownOk l := by
  cases e with
  | gate st => cases st <;> first | rfl | exact absurd rfl h
  | _ => rfl

/-- the check looks only at what follows the first `Shutdown` -/
theorem afterShutdownOk_append (pre rest : List Ev) (h : St.shutdown ∉ states pre) :
    afterShutdownOk (pre ++ rest) = afterShutdownOk rest := by
  induction pre with
  | nil => rfl
  | cons e pre ih =>
    have hs : states (e :: pre) = states [e] ++ states pre := states_append [e] pre
    rw [List.cons_append, afterShutdownOk_cons (fun he => h (by subst he; simp [states]))]
    exact ih fun hm => h (hs ▸ List.mem_append_right _ hm)

/-- `Shutdown` has been announced, once, and only quiet events have followed -/
def Shut (l : List Ev) : Prop :=
  ∃ pre, St.shutdown ∉ states pre ∧ Extends quiet (pre ++ [.gate .shutdown]) l

theorem Shut.ok {l : List Ev} (h : Shut l) : afterShutdownOk l = true := by
  obtain ⟨pre, hpre, evs, rfl, he⟩ := h
  rw [List.append_assoc, afterShutdownOk_append _ _ hpre]
  exact List.all_eq_true.2 he

/-- invariant: once `Shutdown` has been logged only quiet events follow; it is logged exactly at
    the callback that leads to the `finished` phase, after which the task has ended -/
def ShutP (ph : Phase) (c : Core) : Prop :=
  if ph = .finished then Shut c.log else St.shutdown ∉ states c.log

def ShutQ (c : Core) : Pos → Prop
  | .gate st next => St.shutdown ∉ states c.log ∧ (st = .shutdown ↔ next = .finished)
  | .idle ph => St.shutdown ∉ states c.log ∧ ph ≠ .finished
  | .done => Shut c.log

theorem shutInv : Inv ShutP ShutQ where
  eff := fun {ph c nx c'} h hp => by
    by_cases hf : ph = .finished
    · subst hf
      have hp : Shut c.log := by simpa [ShutP] using hp
      cases h with
      | finish =>
        -- the last act of the task: the queued requests are completed with `shutdown`
        exact hp.imp fun _ h => ⟨h.1, h.2.trans ⟨_, rfl, fun _ he => by
          obtain ⟨_, rfl⟩ := shutdownEvents_mem he; rfl⟩⟩
      | sleep _ _ hr | orphaned _ _ hr | shutdown _ _ _ hr | disable _ _ _ hr | skip _ _ _ _ hr
      | answer _ _ _ _ _ hr => exact hr.elim
    · -- `Shutdown` has not been announced, and the task itself announces nothing
      have hno : St.shutdown ∉ states c'.log := by rw [h.states]; simpa [ShutP, hf] using hp
      -- what is left is read off the effect: its gate is `Shutdown` exactly if `finished` follows
      cases h <;> simp_all [Next.sat, ShutP, ShutQ]
  user h hp := by
    unfold ShutP at *
    split
    · rename_i hf; rw [if_pos hf] at hp
      exact hp.imp fun _ hp => ⟨hp.1, hp.2.trans h.log⟩
    · rename_i hf; rw [if_neg hf] at hp; rw [h.states]; exact hp
  gate := fun {c st next} hq => by
    have hpre : St.shutdown ∉ states (c.log ++ if c.unreported then [.closed] else []) := by
      split <;> simpa [states] using hq.1
    unfold ShutP
    split
    · rename_i hf
      rw [hq.2.2 hf]
      exact ⟨_, hpre, .refl _ _⟩
    · rename_i hf
      rw [Core.announce_states]
      simp only [List.mem_append, List.mem_singleton, not_or]
      exact ⟨hq.1, fun hst => hf (hq.2.1 hst.symm)⟩
  idle := fun {c ph} hq => by simpa [ShutP, hq.2, states] using hq.1
  done := fun ⟨evs, _, hc, he, _⟩ hq => hc ▸ hq.imp fun _ hq => ⟨hq.1, hq.2.trans ⟨evs, rfl, he⟩⟩

end Rodbus.C13
