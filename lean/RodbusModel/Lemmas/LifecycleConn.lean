import RodbusModel.Lemmas.LifecycleInv
/-
  The connection object of the life-cycle model (`S.conn`, `S.unreported`, `Ev.closed`): it exists
  exactly from the moment the attempt has succeeded (`Connected` is announced next) until the
  session ends, it is closed before the next state is announced, and the log shows that
  (`Spec.LifeObs.connOk`): the run invariant `connInv`.
-/
namespace Rodbus.Life
open Rodbus.Spec.Life Rodbus.Spec.LifeObs

def gateConnected : Pos → Bool
  | .gate .connected _ => true
  | _ => false

/-- the log shows an open connection: `Connected` has been logged and `closed` has not -/
def connFlag (c : Core) (pos : Pos) : Bool := (c.conn && !gateConnected pos) || c.unreported

/-- the flags fit the phase: the task holds the connection exactly in a session, and the peer's
    view of the last close has been read off — except in `afterDisable`, which lies between the
    close and the callback that reads it off -/
structure ConnFits (ph : Phase) (c : Core) : Prop where
  conn : c.conn = true ↔ isSession ph = true
  reported : ph ≠ .afterDisable → c.unreported = false

/-- invariant at an iteration of `advance`.  `b0`: the log shows an open connection; the task logs
    no `closed` itself, so `b0` is that of the call: leaving a session turns `isSession` into
    `unreported` -/
def ConnPhase (b0 : Bool) (ph : Phase) (c : Core) : Prop :=
  ConnFits ph c ∧ (isSession ph || c.unreported) = b0

/-- in the callback that announces `st`: the connection exists exactly at `Connected`, where the
    peer has not seen it closed, and a session follows exactly then -/
structure ConnGate (c : Core) (st : St) (next : Phase) : Prop where
  conn : c.conn = true ↔ st = .connected
  session : isSession next = true ↔ st = .connected
  fresh : st = .connected → c.unreported = false

def ConnPos (c : Core) : Pos → Prop
  | .gate st next => ConnGate c st next
  | .idle ph => ConnFits ph c
  | .done => ConnFits .finished c

theorem ConnFits.flag {ph c pos} (h : ConnFits ph c) (hg : gateConnected pos = false) :
    connFlag c pos = (isSession ph || c.unreported) := by
  simp [connFlag, hg, Bool.eq_iff_iff.2 h.conn]

theorem ConnFits.closed {ph c} (h : ConnFits ph c) (hs : isSession ph = false) : c.conn = false :=
  Bool.eq_false_iff.2 fun hc => Bool.noConfusion (hs ▸ h.conn.1 hc)

theorem ConnFits.leave {ph c} (h : ConnFits ph c) : (c.leave ph).conn = false := by
  simp [Bool.eq_iff_iff.2 h.conn]

theorem ConnGate.closed {c st next} (hc : c.conn = false) (hst : st ≠ .connected)
    (hn : isSession next = false) : ConnGate c st next :=
  ⟨by simp [hc, hst], by simp [hn, hst], fun h => absurd h hst⟩

theorem connFlag_closed {c pos} (hc : c.conn = false) : connFlag c pos = c.unreported := by
  simp [connFlag, hc]

theorem Eff.conn {b0 ph c nx c'} (h : Eff ph c nx c') (hc : ConnPhase b0 ph c) :
    nx.sat (ConnPhase b0) (fun c pos => ConnPos c pos ∧ connFlag c pos = b0) c' := by
  obtain ⟨hf, hflag⟩ := hc
  cases h with
  | enable | skip | answer => exact ⟨⟨hf.conn, hf.reported⟩, hflag⟩
  | timer | begin => exact ⟨⟨hf.conn, fun _ => hf.reported nofun⟩, hflag⟩
  | sleep | stuck => exact ⟨hf, (hf.flag rfl).trans hflag⟩
  | finish => exact ⟨⟨hf.conn, hf.reported⟩, (connFlag_closed (hf.closed rfl)).trans hflag⟩
  | disabled | dial | failed =>
    exact ⟨.closed (hf.closed rfl) nofun rfl, (connFlag_closed (hf.closed rfl)).trans hflag⟩
  | connected =>
    -- the connection exists from here on; the log shows it only after the `Connected` callback
    have hu : c.unreported = false := hf.reported nofun
    exact ⟨⟨by simp, by simp [isSession], fun _ => hu⟩,
      by simpa [connFlag, gateConnected, hu, isSession] using hflag⟩
  | answerLost | lost => exact ⟨.closed rfl nofun rfl, hflag⟩
  | orphaned | shutdown =>
    exact ⟨.closed hf.leave nofun rfl, (connFlag_closed hf.leave).trans hflag⟩
  | disable => exact ⟨⟨by simpa [isSession] using hf.leave, fun h => absurd rfl h⟩, hflag⟩

theorem connRun_append (n : Nat) (a b : List Ev) :
    connRun n (a ++ b) = (connRun n a).bind (fun m => connRun m b) := by
  induction a generalizing n with
  | nil => simp [connRun]
  | cons e a ih =>
    simp only [List.cons_append, connRun]
    cases connStep n e with
    | none => simp
    | some m => simpa using ih m

theorem connStep_neutral {n : Nat} (hn : n = 0 ∨ n = 1) {e : Ev} (he : neutral e = true) :
    connStep n e = some n := by
  rcases hn with rfl | rfl <;> cases e <;> first | rfl | cases he

theorem Extends.connRun {l l' : List Ev} {b : Bool} (h : Extends neutral l l')
    (hl : connRun 0 l = some (if b then 1 else 0)) : connRun 0 l' = some (if b then 1 else 0) := by
  obtain ⟨evs, rfl, hn⟩ := h
  rw [connRun_append, hl]
  have hb : (if b then 1 else 0) = 0 ∨ (if b then 1 else 0) = 1 := by cases b <;> simp
  generalize (if b then 1 else 0) = n at hb
  induction evs with
  | nil => rfl
  | cons e evs ih =>
    rw [Option.bind_some, Spec.LifeObs.connRun, connStep_neutral hb (hn e (by simp))]
    exact ih fun e h => hn e (List.mem_cons_of_mem _ h)

theorem connStep_gate {st : St} (h : st ≠ .connected) : connStep 0 (.gate st) = some 0 := by
  cases st <;> first | rfl | exact absurd rfl h

/-- the connection invariant of a run: the flags fit the phase resp. the position, and the
    automaton `connRun`, run over the log, says what the flags say -/
def ConnP (ph : Phase) (c : Core) : Prop :=
  ∃ b0, ConnPhase b0 ph c ∧ connRun 0 c.log = some (if b0 then 1 else 0)

structure ConnQ (c : Core) (pos : Pos) : Prop where
  flags : ConnPos c pos
  log : connRun 0 c.log = some (if connFlag c pos then 1 else 0)

theorem connInv : Inv ConnP ConnQ where
  eff h := fun ⟨b0, hc, hl⟩ => by
    have hl' := (h.log.mono neutral_of_completion).connRun hl
    refine Next.sat_imp (fun ph hph => ⟨b0, hph, hl'⟩) (fun pos hpos => ⟨hpos.1, ?_⟩) (h.conn hc)
    rw [hpos.2]; exact hl'
  user h := fun ⟨b0, hc, hl⟩ => by
    have hl' := (h.log.mono neutral_of_quiet).connRun hl
    obtain ⟨_, _, _, rfl, _⟩ := h
    exact ⟨b0, ⟨⟨hc.1.conn, hc.1.reported⟩, hc.2⟩, hl'⟩
  gate := fun {c st next} ⟨hg, hl⟩ => by
    refine ⟨isSession next, ⟨⟨hg.conn.trans hg.session.symm, fun _ => rfl⟩, Bool.or_false _⟩, ?_⟩
    -- the log after the callback: `closed` if the peer has seen the close, then the state
    by_cases hst : st = .connected
    · subst hst
      have hu := hg.fresh rfl
      have : connFlag c (.gate .connected next) = false := by simp [connFlag, gateConnected, hu]
      rw [this] at hl
      simp [Core.announce, hu, hg.session.2 rfl, connRun_append, hl, connRun, connStep]
    · have hn : isSession next = false := Bool.eq_false_iff.2 (mt hg.session.1 hst)
      have hc : c.conn = false := Bool.eq_false_iff.2 (mt hg.conn.1 hst)
      rw [connFlag_closed hc] at hl
      cases hu : c.unreported
      · simp [Core.announce, hu, hn, connRun_append, hu ▸ hl, connRun, connStep_gate hst]
      · simp [Core.announce, hu, hn, connRun_append, hu ▸ hl, connRun, connStep]
  idle := fun {c ph} ⟨hf, hl⟩ =>
    ⟨isSession ph || c.unreported, ⟨⟨hf.conn, hf.reported⟩, rfl⟩,
      Extends.connRun ⟨[.idle], rfl, by simp [neutral]⟩ (hf.flag (pos := .idle ph) rfl ▸ hl)⟩
  done := fun ⟨evs, _, hc, hq, _⟩ ⟨hpos, hl⟩ => by
    subst hc
    exact ⟨⟨hpos.conn, hpos.reported⟩,
      Extends.connRun ⟨evs, rfl, fun e he => neutral_of_quiet (hq e he)⟩ hl⟩

theorem Reachable.connQ {s pos} (h : Reachable s pos) : ConnQ (core s) pos := by
  refine (connInv.reachable (fun s0 h0 => ?_) h).2
  have hc : (core s0).conn = false := h0.conn
  refine ⟨.closed hc nofun rfl, ?_⟩
  rw [connFlag_closed hc]
  simp [core, h0.log, h0.unreported, connRun]

end Rodbus.Life
