import RodbusModel.Lemmas.ClientTick
/-
  Induction over the runs of the client task model, on the concrete state.

  `runTrace`: the states in which the task is polled during a run.  `TraceInv F Q`: `Q`, which may
  speak of the trace so far, is kept by one tick of the outer task, by the release of the clones
  held by completed futures, and by a clock movement; then it is kept by `settle`, `advance`, and —
  when the direct effect of every script step of the run keeps it — by `runState` (`run_traceInv`).
  `TaskInv F P` is the same for a predicate of the state alone; `StepInv F P` asks the script
  steps to keep it as well.  `Blocks F P` is that requirement broken into the pieces a tick is made
  of (`Tick`), for predicates that do not care which guard chose the piece.
-/
namespace Rodbus.Client

section
variable {σ : Type}

/-- `P` is kept by everything the tasks and the clock do -/
structure TaskInv (F : Framing σ) (P : State σ → Prop) : Prop where
  tick : ∀ s t, P s → tick F s = some t → P t
  release : ∀ s, P s → P { s with held := 0 }
  clock : ∀ s target, P s → P (moveClock s target)

/-- the states in which a tick is taken while `settle F fuel s` runs, in order -/
def settleTrace (F : Framing σ) : Nat → State σ → List (State σ)
  | 0, _ => []
  | fuel + 1, s =>
    match tick F s with
    | none => if s.held = 0 then [] else settleTrace F fuel { s with held := 0 }
    | some s' => s :: settleTrace F fuel s'

def advanceTrace (F : Framing σ) : Nat → Nat → State σ → List (State σ)
  | 0, _, _ => []
  | fuel + 1, target, s =>
    match nextTimer s with
    | some dl =>
      if dl ≤ target then
        settleTrace F (settleFuel (moveClock s dl)) (moveClock s dl)
          ++ advanceTrace F fuel target (settled F (moveClock s dl))
      else []
    | none => []

def stepTrace (F : Framing σ) (s : State σ) (st : Step) : List (State σ) :=
  match st with
  | .advance ms => advanceTrace F (advanceFuel s) (s.now + ms) s
  | st => settleTrace F (settleFuel (applyStep s st)) (applyStep s st)

/-- the states in which the outer task is polled while the script `steps` runs from `s` -/
def runTrace (F : Framing σ) (s : State σ) : List Step → List (State σ)
  | [] => []
  | st :: rest => stepTrace F s st ++ runTrace F (stepState F s st) rest

/-- a state of the trace of `runState F s steps` belongs to one script step: the step `st` after
    the prefix `pre` -/
theorem mem_runTrace (F : Framing σ) (s s0 : State σ) (steps : List Step)
    (h : s0 ∈ runTrace F s steps) :
    ∃ pre st post, steps = pre ++ st :: post ∧ s0 ∈ stepTrace F (runState F s pre) st := by
  induction steps generalizing s with
  | nil => simp [runTrace] at h
  | cons st rest ih =>
    simp only [runTrace, List.mem_append] at h
    rcases h with h | h
    · exact ⟨[], st, rest, rfl, h⟩
    · obtain ⟨pre, st', post, h1, h2⟩ := ih _ h
      exact ⟨st :: pre, st', post, by rw [h1]; rfl, h2⟩

theorem runState_append (F : Framing σ) (s : State σ) (a b : List Step) :
    runState F s (a ++ b) = runState F (runState F s a) b := by
  simp [runState, List.foldl_append]

theorem run_fst (F : Framing σ) (s : State σ) (steps : List Step) :
    (run F s steps).1 = runState F s steps := by
  induction steps generalizing s with
  | nil => rfl
  | cons st rest ih =>
    simp only [run, runState, List.foldl_cons]
    rw [ih]
    rfl

theorem run_append (F : Framing σ) (s : State σ) (a b : List Step) :
    (run F s (a ++ b)).2 = (run F s a).2 ++ (run F (run F s a).1 b).2
      ∧ (run F s (a ++ b)).1 = (run F (run F s a).1 b).1 := by
  induction a generalizing s with
  | nil => exact ⟨rfl, rfl⟩
  | cons st rest ih =>
    simp only [List.cons_append, run]
    obtain ⟨i1, i2⟩ := ih (step F s st).1
    rw [i1, i2]
    exact ⟨rfl, rfl⟩

/-- `Q tr s`: a property of the states `tr` in which the task has been polled so far (in order) and
    of the present state `s`, kept by everything the tasks and the clock do; a tick appends the
    state in which it is taken -/
structure TraceInv (F : Framing σ) (Q : List (State σ) → State σ → Prop) : Prop where
  tick : ∀ tr s t, Q tr s → tick F s = some t → Q (tr ++ [s]) t
  release : ∀ tr s, Q tr s → Q tr { s with held := 0 }
  clock : ∀ tr s target, Q tr s → Q tr (moveClock s target)

variable {F : Framing σ} {P : State σ → Prop} {Q : List (State σ) → State σ → Prop}

theorem settle_traceInv (hQ : TraceInv F Q) (fuel : Nat) (tr : List (State σ)) (s : State σ)
    (h : Q tr s) : Q (tr ++ settleTrace F fuel s) (settle F fuel s) := by
  induction fuel generalizing tr s with
  | zero => rw [settleTrace, List.append_nil]; exact h
  | succ n ih =>
    cases ht : tick F s with
    | none =>
      rw [settle_succ_none F n s ht]
      simp only [settleTrace, ht]
      split
      · rw [List.append_nil]; exact h
      · exact ih tr _ (hQ.release tr s h)
    | some t =>
      rw [settle_succ_some F n s t ht]
      simp only [settleTrace, ht]
      have := ih _ t (hQ.tick tr s t h ht)
      rw [List.append_assoc] at this
      exact this

theorem advance_traceInv (hQ : TraceInv F Q) (fuel target : Nat) (tr : List (State σ))
    (s : State σ) (h : Q tr s) :
    Q (tr ++ advanceTrace F fuel target s) (advance F fuel target s) := by
  induction fuel generalizing tr s with
  | zero => rw [advanceTrace, List.append_nil]; exact hQ.clock tr s target h
  | succ n ih =>
    unfold advance advanceTrace
    cases nextTimer s with
    | none => rw [List.append_nil]; exact hQ.clock tr s target h
    | some dl =>
      dsimp only
      split
      · have := ih _ _ (settle_traceInv hQ (settleFuel (moveClock s dl)) tr _ (hQ.clock tr s dl h))
        rw [List.append_assoc] at this
        exact this
      · rw [List.append_nil]; exact hQ.clock tr s target h

theorem stepState_traceInv (hQ : TraceInv F Q) (tr : List (State σ)) (s : State σ) (st : Step)
    (h : Q tr s) (ha : Q tr (applyStep s st)) : Q (tr ++ stepTrace F s st) (stepState F s st) := by
  cases st with
  | advance ms => exact advance_traceInv hQ _ _ tr s h
  | _ => exact settle_traceInv hQ _ tr _ ha

theorem run_traceInv (hQ : TraceInv F Q) (S : Step → Prop)
    (happly : ∀ tr s st, S st → Q tr s → Q tr (applyStep s st)) (tr : List (State σ))
    (s : State σ) (steps : List Step) (hS : ∀ st ∈ steps, S st) (h : Q tr s) :
    Q (tr ++ runTrace F s steps) (runState F s steps) := by
  induction steps generalizing tr s with
  | nil => rw [runTrace, List.append_nil]; exact h
  | cons st rest ih =>
    have := ih _ _ (fun x hx => hS x (by simp [hx]))
      (stepState_traceInv hQ tr s st h (happly tr s st (hS st (by simp)) h))
    rw [List.append_assoc] at this
    exact this

theorem TaskInv.traceInv (hP : TaskInv F P) : TraceInv F (fun _ t => P t) :=
  ⟨fun _ => hP.tick, fun _ => hP.release, fun _ => hP.clock⟩

theorem settle_taskInv (hP : TaskInv F P) (fuel : Nat) (s : State σ) (h : P s) :
    P (settle F fuel s) :=
  settle_traceInv hP.traceInv fuel [] s h

theorem settled_inv (hP : TaskInv F P) (s : State σ) (h : P s) : P (settled F s) :=
  settle_taskInv hP _ s h

theorem advance_taskInv (hP : TaskInv F P) (fuel target : Nat) (s : State σ) (h : P s) :
    P (advance F fuel target s) :=
  advance_traceInv hP.traceInv fuel target [] s h

theorem stepState_taskInv (hP : TaskInv F P) (s : State σ) (st : Step) (h : P s)
    (ha : P (applyStep s st)) : P (stepState F s st) :=
  stepState_traceInv hP.traceInv [] s st h ha

theorem run_inv (hP : TaskInv F P) (S : Step → Prop)
    (happly : ∀ s st, S st → P s → P (applyStep s st)) (s : State σ) (steps : List Step)
    (hS : ∀ st ∈ steps, S st) (h : P s) :
    P (runState F s steps) ∧ ∀ s0 ∈ runTrace F s steps, P s0 := by
  have hQ : TraceInv F (fun tr t => P t ∧ ∀ s0 ∈ tr, P s0) :=
    { tick := fun tr s t h ht => ⟨hP.tick s t h.1 ht, fun s0 hs0 =>
        (List.mem_append.mp hs0).elim (h.2 s0) (fun h' => List.mem_singleton.mp h' ▸ h.1)⟩
      release := fun tr s h => ⟨hP.release s h.1, h.2⟩
      clock := fun tr s target h => ⟨hP.clock s target h.1, h.2⟩ }
  exact run_traceInv hQ S (fun tr s st hst h => ⟨happly s st hst h.1, h.2⟩) [] s steps hS
    ⟨h, fun _ h => absurd h List.not_mem_nil⟩

theorem runState_inv (hP : TaskInv F P) (S : Step → Prop)
    (happly : ∀ s st, S st → P s → P (applyStep s st)) (s : State σ) (steps : List Step)
    (hS : ∀ st ∈ steps, S st) (h : P s) : P (runState F s steps) :=
  (run_inv hP S happly s steps hS h).1

/-- `TaskInv`, and the direct effect of every script step keeps `P` as well -/
structure StepInv (F : Framing σ) (P : State σ → Prop) : Prop where
  tick : ∀ s t, P s → tick F s = some t → P t
  release : ∀ s, P s → P { s with held := 0 }
  clock : ∀ s target, P s → P (moveClock s target)
  user : ∀ s st, P s → P (applyStep s st)

theorem runTrace_inv (hP : StepInv F P) (s : State σ) (steps : List Step) (h : P s) :
    P (runState F s steps) ∧ ∀ s0 ∈ runTrace F s steps, P s0 :=
  run_inv ⟨hP.tick, hP.release, hP.clock⟩ (fun _ => True) (fun s st _ => hP.user s st) s steps
    (fun _ _ => trivial) h

/-- where the result with which the task completes the request in flight comes from -/
inductive Caused (F : Framing σ) : Res → Prop
  | timeout : Caused F .timeout
  | resp (req : ClientReq) (pdu : Bytes) : Caused F (respResult req pdu)
  | reader {fuel : Nat} {st : σ} {rb : RB} {rx : List Rx} {res : Res} {x : σ × RB × List Rx} :
      readerPoll F fuel st rb rx = (.fail res, x) → Caused F res

theorem FinishCause.caused {s : State σ} {m : Nat} {q : Req} {tx dl : Nat} {res : Res}
    (h : FinishCause F s m q tx dl res) : Caused F res := by
  cases h with
  | timeout _ => exact .timeout
  | frame f _ _ => exact .resp _ _
  | readErr res hr => exact .reader (Prod.ext ((pollReader_fst F s m).symm.trans hr) rfl)

/-- `P` is kept by each of the pieces a tick of the task is made of (a tick is a poll of the
    reader, a coin, one control action and the end of the phase, each optional), by the release of
    held clones and by the clock -/
structure Blocks (F : Framing σ) (P : State σ → Prop) : Prop where
  poll : ∀ s m, P s → P (pollReader F s m).2
  coins : ∀ s cs, P s → P { s with coins := cs }
  session : ∀ s m ps, P s →
    P { s with phases := ps, pos := .idle m, nto := 0, pst := F.init, rb := RB.empty }
  phase : ∀ s ps p, inflightIds p = [] → P s → P { s with phases := ps, pos := p }
  dequeue : ∀ s m r q t, s.queue = .req r :: q → Started F { s with queue := q } m r t → P s → P t
  take : ∀ s c q, s.queue = c :: q → c.isReq = false → P s → P (applySetting { s with queue := q } c)
  noConn : ∀ s r q, s.queue = .req r :: q → P s → P (complete { s with queue := q } r .noConn)
  endPhase : ∀ s k, P s → P (endPhase s k)
  finish : ∀ s m q res, Caused F res → P s → P (finish s m q res)
  release : ∀ s, P s → P { s with held := 0 }
  clock : ∀ s target, P s → P (moveClock s target)

theorem Blocks.pre (hB : Blocks F P) {s x : State σ} (hx : Pre F s x) (h : P s) : P x := by
  cases hx with
  | unpolled hy => obtain ⟨cs, rfl⟩ := hy.writes; exact hB.coins s cs h
  | polled _ hy => obtain ⟨cs, rfl⟩ := hy.writes; exact hB.poll _ _ (hB.coins s cs h)

theorem Blocks.tick (hB : Blocks F P) {s t : State σ} (ht : Tick F s t) (h : P s) : P t := by
  cases ht with
  | startSession m ps hp hph => exact hB.session s m ps h
  | startWait ps hp hph => exact hB.phase s ps _ rfl h
  | startFail ms ps hp hph => exact hB.phase s ps _ rfl h
  | commit dl hp => exact hB.phase _ _ _ rfl (hB.pre (.unpolled .flip) h)
  | reader m y ho hy hb hf => exact hB.pre (.polled ho hy) h
  | phaseEnd x k hx hn hi hk => exact hB.endPhase x k (hB.pre hx h)
  | phaseEndCmd x c q k hx hn hi hq hc hk =>
    exact hB.endPhase _ k (hB.take x c q hq hc (hB.pre hx h))
  | setting x c q hx hn hi hq hc => exact hB.take x c q hq hc (hB.pre hx h)
  | noConn r q hp hq => exact hB.noConn s r q hq h
  | request m x r q t hp hx hq hst => exact hB.dequeue x m r q t hq hst (hB.pre hx h)
  | finish m q tx dl x res hp hx hf => exact hB.finish x m q res hf.caused (hB.pre hx h)

theorem Blocks.taskInv (hB : Blocks F P) : TaskInv F P :=
  ⟨fun _ _ h ht => hB.tick (tick_cases ht).2 h, hB.release, hB.clock⟩

end

end Rodbus.Client
