import RodbusModel.Model.Buffer
/-
  The read buffer's equations, and the framed reader over any parser that simulates a state-aware
  whole-stream specification (`Refines`): one delivery (`pump_spec`), every chunking
  (`runChunks_spec`), cancelled reads (`runChunksC_eq`).  Also `C07.IsProtocolError`, the framing
  errors a peer can cause, which the server's and the client's property files both speak of.
-/
namespace Rodbus

@[simp] theorem RB.consume_data (rb : RB) (n : Nat) : (rb.consume n).data = rb.data.drop n := rfl
@[simp] theorem RB.consume_begin (rb : RB) (n : Nat) : (rb.consume n).begin = rb.begin + n := rfl

theorem RB.normalize_eq (rb : RB) :
    rb.normalize =
      ⟨if rb.data = [] ∨ rb.begin + rb.data.length = CAP then 0 else rb.begin, rb.data⟩ := by
  unfold RB.normalize
  by_cases hd : rb.data = []
  · simp [hd, CAP]
  · simp only [hd, if_false, false_or]; split <;> rfl

@[simp] theorem RB.normalize_data (rb : RB) : rb.normalize.data = rb.data := by
  rw [RB.normalize_eq]

theorem RB.normalize_inv {rb : RB} (h : rb.begin + rb.data.length ≤ CAP) :
    rb.normalize.begin + rb.normalize.data.length ≤ CAP := by
  rw [RB.normalize_eq]; dsimp only; split <;> omega

theorem RB.normalize_begin_le (rb : RB) : rb.normalize.begin ≤ rb.begin := by
  rw [RB.normalize_eq]; dsimp only; split <;> omega

theorem readSome_eq (rb : RB) (inc : Bytes) :
    readSome rb inc =
      if CAP ≤ rb.normalize.begin + rb.data.length then none
      else
        let n := min (CAP - (rb.normalize.begin + rb.data.length)) inc.length
        some (⟨rb.normalize.begin, rb.data ++ inc.take n⟩, inc.drop n) := by
  unfold readSome
  simp only [RB.normalize_data]
  split
  · rw [if_pos (by omega)]
  · rw [if_neg (by omega)]

/-- whatever `read_some` returns: nothing lost, duplicated or reordered; the end stays inside the
    array; a non-empty delivery gets shorter -/
theorem readSome_some {rb : RB} {inc : Bytes} {rb' : RB} {inc' : Bytes}
    (h : readSome rb inc = some (rb', inc')) :
    rb'.data ++ inc' = rb.data ++ inc ∧ rb'.begin + rb'.data.length ≤ CAP
      ∧ (inc ≠ [] → inc'.length < inc.length) := by
  rw [readSome_eq] at h
  split at h
  · cases h
  · simp only [Option.some.injEq, Prod.mk.injEq] at h
    obtain ⟨rfl, rfl⟩ := h
    refine ⟨by simp, by simp only [List.length_append, List.length_take]; omega, fun hne => ?_⟩
    have := List.length_pos_iff.mpr hne
    simp only [List.length_drop]; omega

/-- `read_some` is never handed an empty slice while fewer than `CAP` bytes are buffered -/
theorem readSome_ne_none {rb : RB} (inc : Bytes) (hinv : rb.begin + rb.data.length ≤ CAP)
    (hlt : rb.data.length < CAP) : readSome rb inc ≠ none := by
  rw [readSome_eq, RB.normalize_eq]; dsimp only
  rw [if_neg (by split <;> omega)]; simp

theorem readSome_fits (rb : RB) (c : Bytes) (hc : c ≠ [])
    (h : rb.begin + rb.data.length + c.length ≤ CAP) :
    readSome rb c = some (⟨rb.normalize.begin, rb.data ++ c⟩, []) := by
  have hl : 0 < c.length := List.length_pos_iff.mpr hc
  have hb := rb.normalize_begin_le
  rw [readSome_eq, if_neg (by omega)]
  simp only [Nat.min_eq_right (show c.length ≤ CAP - (rb.normalize.begin + rb.data.length) by omega),
    List.take_length, List.drop_length]

namespace C07

/-- the framing errors a peer can provoke; the two internal conditions are excluded.  It stands
    here, below both its users: Props/C07 (server sessions) and Props/C07Client. -/
def IsProtocolError : FrameErr → Prop
  | .internalShortRead => False
  | .spuriousEof => False
  | _ => True

end C07

section
variable {σ : Type} {parse : ParseFn σ} {spec : σ → Bytes → List Event} {Ok : σ → Prop}
  {need w : σ → Nat}

/-- a call that delivers the frame `f` and goes on in `(st', rb')` -/
structure SimFrame (spec : σ → Bytes → List Event) (Ok : σ → Prop) (w : σ → Nat) (st : σ) (rb : RB)
    (fut : Bytes) (f : Frame) (st' : σ) (rb' : RB) : Prop where
  spec_eq : spec st (rb.data ++ fut) = .frame f :: spec st' (rb'.data ++ fut)
  /-- a call keeps `Ok` and is not asked for it: every other clause holds from every state -/
  ok : Ok st → Ok st'
  /-- the parser never moves the end of the buffered bytes: `end ≤ CAP` is `read_some`'s to keep -/
  end_eq : rb'.begin + rb'.data.length = rb.begin + rb.data.length
  /-- a frame strictly lowers `buffered + w`: what the fuel of the loops that call the parser
      counts down -/
  decr : rb'.data.length + w st' < rb.data.length + w st

/-- a call that fails with `e`: the error ends the specification's events, and it is a framing
    error, neither of the two internal conditions; the state it leaves is not looked at, the
    reader stops -/
structure SimErr (spec : σ → Bytes → List Event) (w : σ → Nat) (st : σ) (rb : RB) (fut : Bytes)
    (e : FrameErr) (rb' : RB) : Prop where
  spec_eq : spec st (rb.data ++ fut) = [.err e]
  ne_internal : e ≠ .internalShortRead
  ne_spurious : e ≠ .spuriousEof
  end_eq : rb'.begin + rb'.data.length = rb.begin + rb.data.length
  le : rb'.data.length ≤ rb.data.length + w st

/-- a call that answers `Ok(None)` and stores `(st', rb')` -/
structure SimNone (parse : ParseFn σ) (spec : σ → Bytes → List Event) (Ok : σ → Prop)
    (need w : σ → Nat) (st : σ) (rb : RB) (fut : Bytes) (st' : σ) (rb' : RB) : Prop where
  /-- what was consumed on the way (a header, an address) is accounted for in `st'` -/
  spec_eq : spec st (rb.data ++ fut) = spec st' (rb'.data ++ fut)
  ok : Ok st → Ok st'
  end_eq : rb'.begin + rb'.data.length = rb.begin + rb.data.length
  le : rb'.data.length + w st' ≤ rb.data.length + w st
  /-- it blocks only below `need`: with `Refines.blocked` the bytes held denote nothing yet, with
      `Refines.need_le` there is room for `read_some` -/
  short : rb'.data.length < need st'
  /-- asked again with more bytes, the parser continues where it stopped: a delivery may be split
      anywhere -/
  cont : ∀ more, parse st ⟨rb.begin, rb.data ++ more⟩ = parse st' ⟨rb'.begin, rb'.data ++ more⟩

/-- One parser call from `(st, rb)` against the specification of the stream `rb.data ++ fut`
    (`fut`: the bytes still to arrive), by outcome.  `need st`: the number of buffered bytes below
    which the parser blocks in state `st`; `w`: a weight of the state, there because MBAP completes
    an empty PDU without consuming a byte; `Ok`: the states the parser stores between calls. -/
def Sim (parse : ParseFn σ) (spec : σ → Bytes → List Event) (Ok : σ → Prop) (need w : σ → Nat)
    (st : σ) (rb : RB) (fut : Bytes) : PResult × σ × RB → Prop
  | (.frame f, st', rb') => SimFrame spec Ok w st rb fut f st' rb'
  | (.err e, _, rb') => SimErr spec w st rb fut e rb'
  | (.none, st', rb') => SimNone parse spec Ok need w st rb fut st' rb'

/-- the parser blocks where it stands -/
theorem Sim.wait {st : σ} {rb : RB} {fut : Bytes} (h : rb.data.length < need st) :
    Sim parse spec Ok need w st rb fut (.none, st, rb) :=
  ⟨rfl, id, rfl, Nat.le_refl _, h, fun _ => rfl⟩

/-- A silent hop inside one parser call (one arm of the parser tail-calling the next).  The target
    must be `Ok`: where an arm computes a state that is not (RTU, a length beyond a frame), the
    call it makes fails, and that arm is shown directly. -/
theorem Sim.hop {st1 st2 : σ} {rb1 rb2 : RB} {fut : Bytes} {r : PResult × σ × RB}
    (h : Sim parse spec Ok need w st2 rb2 fut r)
    (hs : spec st1 (rb1.data ++ fut) = spec st2 (rb2.data ++ fut)) (hok : Ok st1 → Ok st2)
    (hb : rb2.begin + rb2.data.length = rb1.begin + rb1.data.length)
    (hw : rb2.data.length + w st2 ≤ rb1.data.length + w st1)
    (hp : ∀ more, parse st1 ⟨rb1.begin, rb1.data ++ more⟩ = parse st2 ⟨rb2.begin, rb2.data ++ more⟩) :
    Sim parse spec Ok need w st1 rb1 fut r := by
  obtain ⟨res, st', rb'⟩ := r
  cases res with
  | none =>
    exact ⟨hs.trans h.spec_eq, h.ok ∘ hok, h.end_eq.trans hb, Nat.le_trans h.le hw, h.short,
      fun more => (hp more).trans (h.cont more)⟩
  | frame f =>
    exact ⟨hs.trans h.spec_eq, h.ok ∘ hok, h.end_eq.trans hb, Nat.lt_of_lt_of_le h.decr hw⟩
  | err e =>
    exact ⟨hs.trans h.spec_eq, h.ne_internal, h.ne_spurious, h.end_eq.trans hb,
      Nat.le_trans h.le hw⟩

/-- after `Ok(None)` the parser, asked again without more bytes, answers `Ok(None)` and stays where
    it is -/
theorem Sim.stable {st st' : σ} {rb rb' : RB} {fut : Bytes}
    (h : Sim parse spec Ok need w st rb fut (.none, st', rb')) (hp : parse st rb = (.none, st', rb')) :
    parse st' rb' = (.none, st', rb') := by
  have := h.cont []
  simp only [List.append_nil] at this
  exact this.symm.trans hp

/-- What the reader theorems below ask of a framing: it supplies `spec`, `Ok`, `need` and `w`
    for its parser and proves these four (`Mbap.refines`, `Rtu.refines`). -/
structure Refines (parse : ParseFn σ) (spec : σ → Bytes → List Event) (Ok : σ → Prop)
    (need w : σ → Nat) : Prop where
  sim : ∀ st rb fut, Sim parse spec Ok need w st rb fut (parse st rb)
  /-- a blocked parser has nothing to report about the bytes it holds: where the stream ends, the
      events delivered so far are all the specification has -/
  blocked : ∀ st d, Ok st → d.length < need st → spec st d = []
  /-- the parser never waits for more than the buffer holds: after `Ok(None)`, `read_some` finds
      room (`readSome_ne_none`) -/
  need_le : ∀ st, Ok st → need st ≤ CAP
  /-- The bound is that of the model's fuel: `discardFuel` (buffered + 2) of the client's discard
      loop must exceed `buffered + w`, which allows a weight of 1 and no more; `fuelFor` of one
      delivery leaves more room. -/
  w_le : ∀ st, w st ≤ 1

/-- `Refines.sim` with nothing still to arrive, for a call whose outcome is known -/
theorem Refines.sim_of_eq {parse : ParseFn σ} {spec : σ → Bytes → List Event} {Ok : σ → Prop}
    {need w : σ → Nat} (R : Refines parse spec Ok need w) {st : σ} {rb : RB}
    {r : PResult × σ × RB} (hp : parse st rb = r) : Sim parse spec Ok need w st rb [] r :=
  hp ▸ R.sim st rb []

/-- What `pump` returns for one delivery `pend`, against the specification of the whole stream
    (`fut`: what arrives later).  Either the reader blocks in `(st', rb')`: the events `es` are a
    prefix of the specification's, which goes on from there, and `(st', rb')` meets what
    `pump_spec` and `runChunks_spec` ask of a start state.  Or the run is over (an error): `es` is
    all the specification has. -/
def Post (spec : σ → Bytes → List Event) (Ok : σ → Prop) (need : σ → Nat) (st : σ) (rb : RB)
    (pend fut : Bytes) : List Event × Option (σ × RB) → Prop
  | (es, some (st', rb')) =>
      spec st (rb.data ++ (pend ++ fut)) = es ++ spec st' (rb'.data ++ fut)
        ∧ rb'.begin + rb'.data.length ≤ CAP ∧ Ok st' ∧ rb'.data.length < need st'
  | (es, none) => spec st (rb.data ++ (pend ++ fut)) = es

theorem Post.cons {st st1 : σ} {rb rb1 : RB} {pend pend1 fut : Bytes} {pre : List Event}
    {q : List Event × Option (σ × RB)} (h : Post spec Ok need st1 rb1 pend1 fut q)
    (hs : spec st (rb.data ++ (pend ++ fut)) = pre ++ spec st1 (rb1.data ++ (pend1 ++ fut))) :
    Post spec Ok need st rb pend fut (pre ++ q.1, q.2) := by
  obtain ⟨es, r⟩ := q
  cases r with
  | none => exact hs.trans (congrArg (pre ++ ·) h)
  | some v => exact ⟨by rw [hs, h.1, List.append_assoc], h.2⟩

/-- One delivery: from a start state within the buffer invariant and `Ok`, `pump` with enough
    fuel achieves `Post`.  The fuel: every iteration either delivers a frame (lowering
    `buffered + w`), moves bytes of the delivery into the buffer (a byte moved still has to be
    parsed, so it counts twice) or ends. -/
theorem pump_spec (R : Refines parse spec Ok need w) : ∀ (fuel : Nat) (st : σ) (rb : RB)
    (pend fut : Bytes), rb.begin + rb.data.length ≤ CAP → Ok st →
    2 * pend.length + rb.data.length + w st + 1 ≤ fuel →
    Post spec Ok need st rb pend fut (pump parse fuel st rb pend) := by
  intro fuel
  induction fuel with
  | zero => intro st rb pend fut _ _ h; omega
  | succ fuel ih =>
    intro st rb pend fut hinv hst hfuel
    have hsim := R.sim st rb (pend ++ fut)
    unfold pump
    split
    · rename_i f st' rb' hp
      rw [hp] at hsim
      exact (ih st' rb' pend fut (by have := hsim.end_eq; omega) (hsim.ok hst)
        (by have := hsim.decr; omega)).cons (pre := [.frame f]) hsim.spec_eq
    · rename_i e st' rb' hp
      rw [hp] at hsim; exact hsim.spec_eq
    · rename_i st' rb' hp
      rw [hp] at hsim
      have hst' := hsim.ok hst
      have hend := hsim.end_eq
      have hw := hsim.le
      split
      · rename_i hpe
        subst hpe
        exact ⟨by simpa using hsim.spec_eq, by omega, hst', hsim.short⟩
      · rename_i hpe
        split
        · rename_i hr
          exact absurd hr (readSome_ne_none pend (by omega)
            (Nat.lt_of_lt_of_le hsim.short (R.need_le st' hst')))
        · rename_i rb'' pend' hr
          obtain ⟨r1, r2, r3⟩ := readSome_some hr
          have hlen := congrArg List.length r1
          simp only [List.length_append] at hlen
          have := r3 hpe
          refine (ih st' rb'' pend' fut r2 hst' (by omega)).cons (pre := []) ?_
          rw [hsim.spec_eq, ← List.append_assoc, ← r1, List.append_assoc]; rfl

/-- from any blocked reader state, the reader over any chunking yields the specification of
    (buffered bytes ++ the stream) -/
theorem runChunks_spec (R : Refines parse spec Ok need w) : ∀ (chunks : List Bytes) (st : σ)
    (rb : RB), rb.begin + rb.data.length ≤ CAP → Ok st → rb.data.length < need st →
    runChunks parse st rb chunks = spec st (rb.data ++ chunks.flatten) := by
  intro chunks
  induction chunks with
  | nil => intro st rb _ hst hb; simp [runChunks, R.blocked st rb.data hst hb]
  | cons c cs ih =>
    intro st rb hinv hst hb
    have hp := pump_spec R (fuelFor rb c) st rb c cs.flatten hinv hst
      (by have := R.w_le st; unfold fuelFor; omega)
    unfold runChunks
    generalize pump parse (fuelFor rb c) st rb c = q at hp
    obtain ⟨es, _ | ⟨st', rb'⟩⟩ := q
    · simpa using hp.symm
    · obtain ⟨hs, hinv', hst', hb'⟩ := hp
      simp only [List.flatten_cons]
      rw [hs, ih st' rb' hinv' hst' hb']

/-- cancelled reads (which leave `rb.normalize`) change nothing -/
theorem runChunksC_eq (R : Refines parse spec Ok need w) : ∀ (ds : List (Option Bytes)) (st : σ)
    (rb : RB), rb.begin + rb.data.length ≤ CAP → Ok st → rb.data.length < need st →
    runChunksC parse st rb ds = runChunks parse st rb (ds.filterMap id) := by
  intro ds
  induction ds with
  | nil => intro st rb _ _ _; rfl
  | cons d ds ih =>
    intro st rb hinv hst hb
    cases d with
    | none =>
      have hinv' := RB.normalize_inv hinv
      have hb' : rb.normalize.data.length < need st := by simpa using hb
      simp only [runChunksC, List.filterMap_cons, id]
      rw [ih st _ hinv' hst hb', runChunks_spec R _ st _ hinv' hst hb',
        runChunks_spec R _ st rb hinv hst hb, RB.normalize_data]
    | some c =>
      have hp := pump_spec R (fuelFor rb c) st rb c [] hinv hst
        (by have := R.w_le st; unfold fuelFor; omega)
      simp only [runChunksC, List.filterMap_cons, id, runChunks]
      generalize pump parse (fuelFor rb c) st rb c = q at hp
      obtain ⟨es, _ | ⟨st', rb'⟩⟩ := q
      · rfl
      · obtain ⟨-, hinv', hst', hb'⟩ := hp
        simp only
        rw [ih st' rb' hinv' hst' hb']

end
end Rodbus
