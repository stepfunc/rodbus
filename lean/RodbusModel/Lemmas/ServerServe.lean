import RodbusModel.Lemmas.ServerCases
/-
  What serving a request amounts to (`Spec.Server.serve`, `applyToAll`) in terms of the
  vocabulary of Lemmas/ServerCases.lean; decoded requests are within limits and fit u16; reply
  lengths; the handler map; sessions (`runFrames`) against the reference run `specRun`.
-/
namespace Rodbus
open Rodbus.Spec.Server

/-- a served read: either every address of the range is readable, all are queried in ascending
    order and their values returned; or the addresses up to and including the first unreadable one
    are queried and its exception returned -/
theorem serve_read {σ : Type} (H : Handler σ) (u : Nat) (s : σ) (fc : Fc) (r : Range)
    (hr : fc.isRead = true) :
    serve H u s (mkRead fc r) =
      match firstErr (fun i => H.readErr fc s (r.start + i)) r.count with
      | some (k, e) =>
        ([orErr fc.toByte, e], (List.range (k + 1)).map fun i => readCall fc u (r.start + i), s)
      | none =>
        (fc.toByte :: (match fc with
          | .readCoils | .readDiscreteInputs => (r.count + 7) / 8 ::
            packBits ((List.range r.count).map fun i => valOr false (H.readBit fc s (r.start + i)))
          | _ => 2 * r.count ::
            packRegs ((List.range r.count).map fun i => valOr 0 (H.readReg fc s (r.start + i)))),
         (List.range r.count).map fun i => readCall fc u (r.start + i), s) := by
  cases fc <;> first | cases hr | skip
  all_goals
    simp only [serve, mkRead, bitsReply, regsReply, queried, firstFailure_eq_firstErr,
      ← packBits_map_range, ← packRegs_map_range, Handler.readErr]
    generalize firstErr _ r.count = ff
    cases ff <;> simp only [List.map_map] <;> rfl

theorem serve_read_state {σ : Type} (H : Handler σ) (u : Nat) (s : σ) (req : Request)
    (hr : isWrite req = false) : (serve H u s req).2.2 = s := by
  cases req <;> first | rfl | simp [isWrite] at hr

theorem serve_read_calls_mem {σ : Type} (H : Handler σ) (u : Nat) (s : σ) (fc : Fc) (r : Range)
    (hr : fc.isRead = true) (c : Call) (hc : c ∈ (serve H u s (mkRead fc r)).2.1) :
    ∃ a, c = readCall fc u a ∧ r.start ≤ a ∧ a < r.start + r.count := by
  have h := firstErr_spec (fun i => H.readErr fc s (r.start + i)) r.count
  rw [serve_read H u s fc r hr] at hc
  generalize firstErr _ r.count = ff at h hc
  cases ff with
  | none =>
    obtain ⟨i, hi, rfl⟩ := List.mem_map.1 hc
    exact ⟨_, rfl, by omega, by have := List.mem_range.1 hi; omega⟩
  | some p =>
    obtain ⟨i, hi, rfl⟩ := List.mem_map.1 hc
    exact ⟨_, rfl, by omega, by have := List.mem_range.1 hi; have := h.1; omega⟩

theorem writeCalls_read (req : Request) (u : Nat) (h : isWrite req = false) : writeCalls req u = [] := by
  cases req <;> first | rfl | simp [isWrite] at h

theorem writeCalls_not_auth (req : Request) (u : Nat) : ∀ c ∈ writeCalls req u, c.isAuth = false := by
  cases req <;> intro c hc <;> first | (rw [List.mem_singleton.1 hc]; rfl) | cases hc

theorem readCall_not_auth (fc : Fc) (u a : Nat) : (readCall fc u a).isAuth = false := by
  cases fc <;> rfl

theorem authQuestion_isAuth (req : Request) (u : Nat) (role : String) :
    (authQuestion req u role).isAuth = true := by
  cases req <;> rfl

theorem serve_calls_not_auth {σ : Type} (H : Handler σ) (u : Nat) (s : σ) (req : Request) :
    ∀ c ∈ (serve H u s req).2.1, c.isAuth = false := by
  intro c hc
  cases hw : isWrite req with
  | true => rw [serve_write H u s req hw] at hc; exact writeCalls_not_auth req u c hc
  | false =>
    obtain ⟨r, hr, hfc⟩ := read_eq_mkRead req hw
    rw [hr] at hc
    obtain ⟨a, rfl, _⟩ := serve_read_calls_mem H u s _ r hfc c hc
    exact readCall_not_auth ..

theorem question_isAuth {σ : Type} (cfg : ServerCfg σ) (dest : Nat) (req : Request) :
    ∀ c ∈ cfg.question dest req, c.isAuth = true := by
  unfold ServerCfg.question
  cases cfg.auth with
  | none => simp
  | some p => simp [authQuestion_isAuth]

theorem readErr_bit {σ : Type} (H : Handler σ) (fc : Fc)
    (hfc : fc = .readCoils ∨ fc = .readDiscreteInputs) (s : σ) (a : Nat) :
    H.readErr fc s a = errOf (H.readBit fc s a) := by
  rcases hfc with rfl | rfl <;> rfl

theorem readErr_reg {σ : Type} (H : Handler σ) (fc : Fc)
    (hfc : fc = .readHoldingRegisters ∨ fc = .readInputRegisters) (s : σ) (a : Nat) :
    H.readErr fc s a = errOf (H.readReg fc s a) := by
  rcases hfc with rfl | rfl <;> rfl

theorem u16be_u16At_take {body : Bytes} (hw : Bytes.WF body) (h : 4 ≤ body.length) :
    u16be (u16At body 0) ++ u16be (u16At body 2) = body.take 4 := by
  match body, h with
  | a :: b :: c :: d :: t, _ =>
    simp only [Bytes.WF_cons] at hw
    rw [u16At_zero, u16At_two, u16be_be16 hw.1 hw.2.1, u16be_be16 hw.2.2.1 hw.2.2.2.1]
    rfl

/-- a successful write answers with the first five bytes of the request PDU -/
theorem writeEcho_decode {b : Nat} {fc : Fc} {body : Bytes} (hfc : Fc.ofByte b = some fc)
    (hw : Bytes.WF body) (hv : validBody fc body = true) (hwr : isWrite (decode fc body) = true) :
    fc.toByte :: writeEcho (decode fc body) = (b :: body).take 5 := by
  rw [Fc.toByte_of_ofByte hfc, List.take_succ_cons]
  congr 1
  cases fc with
  | writeSingleCoil =>
    simp only [validBody, Bool.and_eq_true, beq_iff_eq, Bool.or_eq_true] at hv
    rw [← u16be_u16At_take hw (by omega)]
    -- the value word is 0xFF00 or 0, and `coilToU16` of its decoding gives it back
    rcases hv.2 with hq | hq <;> simp [decode, writeEcho, coilToU16, COIL_ON, COIL_OFF, hq]
  | writeSingleRegister =>
    simp only [validBody, beq_iff_eq] at hv
    exact u16be_u16At_take hw (by omega)
  | writeMultipleCoils | writeMultipleRegisters =>
    simp only [validBody, Bool.and_eq_true, beq_iff_eq] at hv
    exact u16be_u16At_take hw (by omega)
  | _ => cases hwr

/-- quantity limits of the protocol, no address overflow, as many values as the quantity says -/
def Request.InLimits : Request → Prop
  | .readCoils r | .readDiscreteInputs r =>
    1 ≤ r.count ∧ r.count ≤ 2000 ∧ r.start + r.count ≤ 65536
  | .readHoldingRegisters r | .readInputRegisters r =>
    1 ≤ r.count ∧ r.count ≤ 125 ∧ r.start + r.count ≤ 65536
  | .writeSingleCoil _ _ | .writeSingleRegister _ _ => True
  | .writeMultipleCoils r vals =>
    1 ≤ r.count ∧ r.count ≤ 1968 ∧ r.start + r.count ≤ 65536 ∧ vals.length = r.count
  | .writeMultipleRegisters r vals =>
    1 ≤ r.count ∧ r.count ≤ 123 ∧ r.start + r.count ≤ 65536 ∧ vals.length = r.count

def Request.FitsU16 : Request → Prop
  | .writeSingleCoil i _ => i < 65536
  | .writeSingleRegister i v => i < 65536 ∧ v < 65536
  | .writeMultipleRegisters _ vals => ∀ v ∈ vals, v < 65536
  | _ => True

theorem decode_inLimits {fc : Fc} {body : Bytes} (hv : validBody fc body = true) :
    (decode fc body).InLimits := by
  cases fc <;> simp only [validBody, Bool.and_eq_true, decide_eq_true_eq, beq_iff_eq] at hv
  case readCoils | readDiscreteInputs | readHoldingRegisters | readInputRegisters =>
    exact ⟨hv.1.1.2, hv.1.2, hv.2⟩
  case writeSingleCoil | writeSingleRegister => trivial
  case writeMultipleCoils | writeMultipleRegisters =>
    exact ⟨hv.1.1.1, hv.1.1.2, hv.1.2, by rw [List.length_map, List.length_range]⟩

theorem decode_fitsU16 {fc : Fc} {body : Bytes} (hw : Bytes.WF body) : (decode fc body).FitsU16 := by
  cases fc with
  | writeSingleCoil => exact u16At_lt hw _
  | writeSingleRegister => exact ⟨u16At_lt hw _, u16At_lt hw _⟩
  | writeMultipleRegisters =>
    simp only [decode, Request.FitsU16, List.mem_map]
    rintro v ⟨i, _, rfl⟩; exact u16At_lt hw _
  | _ => trivial

theorem requestOf_inLimits {f : Frame} {req : Request} (h : requestOf f = some req) :
    req.InLimits := by
  obtain ⟨b, body, fc, _, _, hv, rfl⟩ := (requestOf_some_iff f req).1 h
  exact decode_inLimits hv

theorem bitsReply_length (fcb : Nat) (get : Nat → Except Nat Bool) (start qty : Nat) :
    (bitsReply fcb get start qty).length ≤ 2 + (qty + 7) / 8 := by
  unfold bitsReply; split <;> simp <;> omega

theorem regsReply_length (fcb : Nat) (get : Nat → Except Nat Nat) (start qty : Nat) :
    (regsReply fcb get start qty).length ≤ 2 + 2 * qty := by
  unfold regsReply; split
  · simp
  · have := packRegs_map_range (fun i => valOr 0 (get (start + i))) qty
    simp only [] at this ⊢
    rw [List.length_cons, List.length_cons, ← this, packRegs_length]; simp; omega

theorem writeReply_length (fcb : Nat) (res : Except Nat Unit) (echo : Bytes) :
    (writeReply fcb res echo).length ≤ 2 + echo.length := by
  unfold writeReply; split <;> simp <;> omega

/-- every reply to a request within the protocol limits fits the 253-byte PDU -/
theorem serve_reply_len {σ : Type} (H : Handler σ) (u : Nat) (s : σ) (req : Request)
    (h : req.InLimits) : (serve H u s req).1.length ≤ 253 := by
  cases hw : isWrite req with
  | true =>
    rw [serve_write H u s req hw]
    have he : (writeEcho req).length = 4 := by cases req <;> first | rfl | cases hw
    have := writeReply_length req.fc.toByte (H.applyWrite s req).1 (writeEcho req)
    change (writeReply _ _ _).length ≤ 253
    omega
  | false =>
    cases req with
    | readCoils r | readDiscreteInputs r =>
      exact Nat.le_trans (bitsReply_length _ _ _ _) (by simp only [Request.InLimits] at h; omega)
    | readHoldingRegisters r | readInputRegisters r =>
      exact Nat.le_trans (regsReply_length _ _ _ _) (by simp only [Request.InLimits] at h; omega)
    | _ => cases hw

theorem setUnit_keys {σ : Type} (hs : List (Nat × σ)) (u : Nat) (s : σ) :
    (setUnit hs u s).map Prod.fst = hs.map Prod.fst := by
  unfold setUnit
  rw [List.map_map]
  apply List.map_congr_left
  intro p _; obtain ⟨k, t⟩ := p
  simp only [Function.comp]; split <;> rfl

theorem setUnit_eq_self {σ : Type} {hs : List (Nat × σ)} {u : Nat} {s : σ}
    (h : ∀ p ∈ hs, p.1 = u → p.2 = s) : setUnit hs u s = hs := by
  unfold setUnit
  refine (List.map_congr_left fun p hp => ?_).trans (List.map_id' hs)
  obtain ⟨k, t⟩ := p
  show (if k = u then (k, s) else (k, t)) = (k, t)
  split
  · rename_i hk; rw [← (h _ hp hk : t = s)]
  · rfl

/-- unit ids being unique (as in a `BTreeMap`), the entry that is looked up is the only one -/
theorem lookupUnit_unique {σ : Type} {hs : List (Nat × σ)} {u : Nat} {s : σ}
    (hnd : (hs.map Prod.fst).Nodup) (h : lookupUnit hs u = some s) :
    ∀ p ∈ hs, p.1 = u → p.2 = s := by
  induction hs with
  | nil => nofun
  | cons q rest ih =>
    obtain ⟨k, t⟩ := q
    rw [List.map_cons, List.nodup_cons] at hnd
    intro p hp hpu
    by_cases hk : k = u
    · obtain rfl : t = s := by simpa [lookupUnit, hk] using h
      rcases List.mem_cons.1 hp with rfl | hp
      · rfl
      · exact absurd (List.mem_map_of_mem (f := Prod.fst) hp) (by rw [hpu, ← hk]; exact hnd.1)
    · rcases List.mem_cons.1 hp with rfl | hp
      · exact absurd hpu hk
      · exact ih hnd.2 (by simpa [lookupUnit, hk] using h) p hp hpu

theorem lookupUnit_isSome_iff {σ : Type} (hs : List (Nat × σ)) (u : Nat) :
    (lookupUnit hs u).isSome = true ↔ u ∈ hs.map Prod.fst := by
  induction hs with
  | nil => simp [lookupUnit]
  | cons p rest ih =>
    obtain ⟨k, t⟩ := p
    by_cases hk : k = u
    · simp [lookupUnit, hk]
    · have : ¬ u = k := fun e => hk e.symm
      simp [lookupUnit, hk, this, ih]

theorem contains_keys_eq {σ : Type} (hs : List (Nat × σ)) (u : Nat) :
    (hs.map Prod.fst).contains u = (lookupUnit hs u).isSome := by
  rw [Bool.eq_iff_iff, List.contains_iff_mem, lookupUnit_isSome_iff]

theorem lookupUnit_eq_none {σ : Type} {hs : List (Nat × σ)} {u : Nat} (h : u ∉ hs.map Prod.fst) :
    lookupUnit hs u = none := by
  cases hl : lookupUnit hs u with
  | none => rfl
  | some s => exact absurd ((lookupUnit_isSome_iff hs u).1 (by rw [hl]; rfl)) h

theorem lookupUnit_setUnit {σ : Type} (hs : List (Nat × σ)) (u u' : Nat) (s : σ) :
    lookupUnit (setUnit hs u s) u' =
      if u' = u then (lookupUnit hs u).map (fun _ => s) else lookupUnit hs u' := by
  induction hs with
  | nil => simp [setUnit, lookupUnit]
  | cons p rest ih =>
    obtain ⟨k, t⟩ := p
    have ih : lookupUnit (setUnit rest u s) u' = _ := ih
    simp only [setUnit, List.map_cons] at ih ⊢
    by_cases hk : k = u
    · subst hk
      simp only [if_true, lookupUnit, ih]
      by_cases hu : k = u'
      · subst hu; simp
      · simp [hu, Ne.symm hu]
    · simp only [hk, if_false, lookupUnit, ih]
      by_cases hu : u' = u
      · subst hu; simp [hk]
      · simp only [hu, if_false]

theorem handleFrame_read_states {σ : Type} (cfg : ServerCfg σ) (hs : List (Nat × σ)) (f : Frame)
    {req : Request} (hreq : requestOf f = some req) (hr : isWrite req = false) :
    (handleFrame cfg hs f).states = hs
      ∨ ∃ s, lookupUnit hs f.dest = some s ∧ (handleFrame cfg hs f).states = setUnit hs f.dest s := by
  have h := handleFrame_handled cfg hs f
  generalize handleFrame cfg hs f = o at h
  cases h with
  | broadcast req' h' _ _ hw => rw [hreq] at h'; cases h'; rw [hr] at hw; cases hw
  | served req' s h' _ _ hl =>
    rw [hreq] at h'; cases h'
    exact .inr ⟨s, hl, by simp only [serve_read_state _ _ _ _ hr]⟩
  | _ => exact .inl rfl

theorem handleFrame_keys {σ : Type} (cfg : ServerCfg σ) (hs : List (Nat × σ)) (f : Frame) :
    (handleFrame cfg hs f).states.map Prod.fst = hs.map Prod.fst := by
  have h := handleFrame_handled cfg hs f
  generalize handleFrame cfg hs f = o at h
  cases h with
  | broadcast => simp [Function.comp_def]
  | served => exact setUnit_keys ..
  | _ => rfl

theorem handleFrame_calls {σ : Type} (cfg : ServerCfg σ) (hs : List (Nat × σ)) (f : Frame) :
    ∃ rest, (handleFrame cfg hs f).calls =
        (match requestOf f with | some req => cfg.question f.dest req | none => []) ++ rest
      ∧ ∀ c ∈ rest, c.isAuth = false := by
  have h := handleFrame_handled cfg hs f
  generalize handleFrame cfg hs f = o at h
  cases h with
  | rejected h => exact ⟨[], by simp [h], by simp⟩
  | denied req h | ignored req h => exact ⟨[], by simp [h], by simp⟩
  | broadcast req h =>
    refine ⟨_, by rw [h], fun c hc => ?_⟩
    obtain ⟨u, _, hc⟩ := List.mem_flatMap.1 hc
    exact writeCalls_not_auth req u c hc
  | served req s h => exact ⟨_, by rw [h], serve_calls_not_auth _ _ _ _⟩

/-- the authorization questions asked while handling a frame depend on the configuration and the
    frame only: one for a valid request (if a handler is configured), none otherwise -/
theorem handleFrame_auth_calls {σ : Type} (cfg : ServerCfg σ) (hs : List (Nat × σ)) (f : Frame) :
    (handleFrame cfg hs f).calls.filter Call.isAuth =
      match requestOf f with
      | some req => cfg.question f.dest req
      | none => [] := by
  obtain ⟨rest, h, hr⟩ := handleFrame_calls cfg hs f
  have hn : rest.filter Call.isAuth = [] := List.filter_eq_nil_iff.2 fun c hc => by simp [hr c hc]
  rw [h, List.filter_append, hn, List.append_nil]
  cases requestOf f with
  | none => rfl
  | some req => exact List.filter_eq_self.2 (question_isAuth cfg f.dest req)

theorem runFrames_append {σ : Type} (cfg : ServerCfg σ) (hs : List (Nat × σ)) (fs gs : List Frame) :
    runFrames cfg hs (fs ++ gs) =
      ((runFrames cfg hs fs).1 ++ (runFrames cfg (runFrames cfg hs fs).2.2 gs).1,
       (runFrames cfg hs fs).2.1 ++ (runFrames cfg (runFrames cfg hs fs).2.2 gs).2.1,
       (runFrames cfg (runFrames cfg hs fs).2.2 gs).2.2) := by
  induction fs generalizing hs with
  | nil => simp [runFrames]
  | cons f fs ih => simp [runFrames, ih, List.append_assoc]

theorem runFrames_of_stable {σ : Type} (cfg : ServerCfg σ) (hs : List (Nat × σ)) (fs : List Frame)
    (h : ∀ f ∈ fs, (handleFrame cfg hs f).states = hs) :
    runFrames cfg hs fs =
      (fs.flatMap fun f => match (handleFrame cfg hs f).reply with | some p => [(f, p)] | none => [],
       fs.flatMap fun f => (handleFrame cfg hs f).calls, hs) := by
  induction fs with
  | nil => rfl
  | cons f fs ih =>
    simp only [runFrames, h f (List.mem_cons_self ..), ih fun g hg => h g (List.mem_cons_of_mem _ hg),
      List.flatMap_cons]
    rfl

/-- a session of the reference server: `respond` folded over the frames (mirror of `runFrames`) -/
def specRun {σ : Type} (cfg : ServerCfg σ) :
    List (Nat × σ) → List Frame → List (Frame × Bytes) × List Call × List (Nat × σ)
  | hs, [] => ([], [], hs)
  | hs, f :: fs =>
    let o := respond cfg hs f
    let (rs, cs, hs') := specRun cfg o.states fs
    ((match o.reply with | some p => [(f, p)] | none => []) ++ rs, o.calls ++ cs, hs')

end Rodbus
