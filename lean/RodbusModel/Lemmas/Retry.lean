import RodbusModel.Model.Retry
/-
  The doubling strategy in closed form: after `k` consecutive failed connects since the last reset
  the strategy object is `closed mn mx k`, and every operation maps closed forms to closed forms.
-/
namespace Rodbus.Retry

/-- arithmetic core of the doubling step: capping before doubling changes nothing once the result
    is capped again (`DM` is `DURATION_MAX`, which a representable `max` never exceeds) -/
theorem step_arith (a max DM : Nat) (hmax : max ≤ DM) :
    Nat.min (Nat.min (2 * Nat.min a max) DM) max = Nat.min (2 * a) max := by
  show min (min (2 * min a max) DM) max = min (2 * a) max
  omega

/-- the strategy object after `k` consecutive failed connects since the last reset -/
def closed (mn mx k : Nat) : Doubling := ⟨mn, mx, Nat.min (mn * 2 ^ k) mx⟩

theorem eq_closed {mn mx k : Nat} {d : Doubling} (h1 : d.min = mn) (h2 : d.max = mx)
    (h3 : d.current = Nat.min (mn * 2 ^ k) mx) : d = closed mn mx k := by
  cases d; simp_all [closed]

theorem create_eq_closed (mn mx : Nat) : create mn mx = closed mn mx 0 := by simp [create, closed]

@[simp] theorem reset_closed (mn mx k : Nat) : reset (closed mn mx k) = closed mn mx 0 := by
  simp [reset, closed]

@[simp] theorem afterDisconnect_closed (mn mx k : Nat) : afterDisconnect (closed mn mx k) = mn := rfl

theorem afterFailedConnect_closed {mx : Nat} (hmx : mx ≤ DURATION_MAX) (mn k : Nat) :
    afterFailedConnect (closed mn mx k) = (Nat.min (mn * 2 ^ k) mx, closed mn mx (k + 1)) := by
  have hp : mn * 2 ^ (k + 1) = 2 * (mn * 2 ^ k) := by rw [Nat.pow_succ]; ac_rfl
  simp only [afterFailedConnect, closed, hp, step_arith _ _ _ hmx]

theorem failures_closed {mx : Nat} (hmx : mx ≤ DURATION_MAX) (mn : Nat) :
    ∀ k j, failures (closed mn mx j) k = (List.range k).map fun i => Nat.min (mn * 2 ^ (j + i)) mx
  | 0, _ => rfl
  | k + 1, j => by
    simp only [failures, afterFailedConnect_closed hmx, failures_closed hmx mn k (j + 1),
      List.range_succ_eq_map, List.map_cons, List.map_map, Nat.add_zero]
    exact congrArg _ (List.map_congr_left fun i _ => by simp only [Function.comp, Nat.add_right_comm j 1 i, Nat.add_assoc])

end Rodbus.Retry
