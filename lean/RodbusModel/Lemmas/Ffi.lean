import RodbusModel.Spec.Ffi
import RodbusModel.Lemmas.Codec
/-
  For Props/C18: comparing row lists (`sameRows`), the enumerations as lists (`forall_iff_mem`,
  `*.mem_all`), the device map.  For Props/C19: the abstract map `Table → Index → Option Value` and
  its refinement by `Db`, the read loop on an absent point, the invariant of the lock model (`LInv`).
-/
namespace Rodbus.Ffi
open Rodbus.Ffi.Spec

/-- two row lists describe the same table (order and duplicates aside, same length) -/
def sameRows {α : Type} [BEq α] (a b : List α) : Bool :=
  a.length == b.length && a.all (b.contains ·) && b.all (a.contains ·)

/-- a statement over all of an enumerated type is one over the list of its members, which a
    single evaluation decides -/
theorem forall_iff_mem {α : Type} {l : List α} (hl : ∀ a, a ∈ l) (p : α → Prop) :
    (∀ a, p a) ↔ ∀ a ∈ l, p a :=
  ⟨fun h a _ => h a, fun h a => h a (hl a)⟩

theorem RustErrTag.mem_all (k : RustErrTag) : k ∈ RustErrTag.all := by cases k <;> decide
theorem MxCode.mem_all (m : MxCode) : m ∈ MxCode.all := by cases m <;> decide
theorem ServerCtor.mem_all (c : ServerCtor) : c ∈ ServerCtor.all := by cases c <;> decide
theorem CtlTarget.mem_all (t : CtlTarget) : t ∈ [CtlTarget.live, .null, .closed, .withinAsync] := by
  cases t <;> decide

theorem named_or_unknown (e : ExCode) : e ∈ namedExCodes ∨ ∃ b, e = .unknown b := by
  cases e
  case unknown b => exact .inr ⟨b, rfl⟩
  all_goals exact .inl (by decide)

/-- what does not look at the byte `unknown` carries holds of all exception codes once it holds of
    the nine named ones and of one `unknown` -/
theorem forall_exCode {p : ExCode → Prop} (hu : ∀ b, p (.unknown 0) → p (.unknown b))
    (h : ∀ e ∈ ExCode.unknown 0 :: namedExCodes, p e) (e : ExCode) : p e :=
  match named_or_unknown e with
  | .inl hn => h e (.tail _ hn)
  | .inr ⟨b, hb⟩ => hb ▸ hu b (h _ (.head _))

theorem PMap.find_cons (a b : Nat) (m : PMap) (k : Nat) :
    PMap.find ((a, b) :: m) k = if a = k then some b else PMap.find m k := rfl

theorem PMap.find_replace (m : PMap) (k v k' : Nat) :
    (m.replace k v).find k' = if k' = k then (m.find k).map (fun _ => v) else m.find k' := by
  induction m with
  | nil => simp [PMap.replace, PMap.find]
  | cons hd tl ih =>
    obtain ⟨a, b⟩ := hd
    rw [PMap.replace, List.map_cons, ← PMap.replace, PMap.find_cons, PMap.find_cons]
    by_cases h2 : k' = k
    · subst h2; by_cases h1 : a = k' <;> simp [ih, h1]
    · by_cases h1 : a = k
      · subst h1; simp [PMap.find_cons, ih, h2, Ne.symm h2]
      · simp [PMap.find_cons, ih, h1, h2]

theorem PMap.find_erase (m : PMap) (k k' : Nat) :
    (m.erase k).find k' = if k' = k then none else m.find k' := by
  induction m with
  | nil => simp [PMap.erase, PMap.find]
  | cons hd tl ih =>
    obtain ⟨a, b⟩ := hd
    rw [PMap.erase, List.filter_cons, ← PMap.erase, PMap.find_cons]
    by_cases h2 : k' = k
    · subst h2; by_cases h1 : a = k' <;> simp [PMap.find_cons, ih, h1]
    · by_cases h1 : a = k
      · subst h1; simp [ih, h2, Ne.symm h2]
      · simp [PMap.find_cons, ih, h1, h2]

theorem Db.tbl_setTbl (db : Db) (t t' : Table) (m : PMap) :
    (db.setTbl t m).tbl t' = if t' = t then m else db.tbl t' := by
  cases t <;> cases t' <;> rfl

theorem Spec.AMap.set_ne (m : AMap) {t t' : Table} {i i' : Nat} (h : (t', i') ≠ (t, i))
    (v : Option Nat) : m.set t i v t' i' = m t' i' :=
  if_neg fun e => h (by rw [e.1, e.2])

theorem Spec.AMap.set_eq_self {m : AMap} {t : Table} {i : Nat} {v : Option Nat} (h : m t i = v) :
    m.set t i v = m := by
  funext t' i'
  rw [AMap.set]
  split
  · rename_i e; rw [← h, e.1, e.2]
  · rfl

theorem Spec.AMap.set_comm (m : AMap) {t t' : Table} {i i' : Nat} (h : (t, i) ≠ (t', i'))
    (v v' : Option Nat) : (m.set t i v).set t' i' v' = (m.set t' i' v').set t i v := by
  funext a b
  simp only [AMap.set]
  split
  · rename_i h1; rw [if_neg fun h2 => h (by rw [← h1.1, ← h1.2, h2.1, h2.2])]
  · rfl

/-- an operation reads and writes its own point only: its result and the value it leaves there are
    a function of the value it finds there (`f` is the operation run on a one-point map) -/
theorem Spec.AMap.step_eq (p : DbOp) : ∃ f : Option Nat → Option Nat × DbRes, ∀ m : AMap,
    m.step p =
      (m.set p.point.1 p.point.2 (f (m p.point.1 p.point.2)).1, (f (m p.point.1 p.point.2)).2) := by
  refine ⟨fun o => ((AMap.step (fun _ _ => o) p).1 p.point.1 p.point.2, (AMap.step (fun _ _ => o) p).2),
    fun m => ?_⟩
  cases p <;> simp only [DbOp.point] <;> cases h : m _ _ <;>
    simp [AMap.step, AMap.set, h, AMap.set_eq_self h]

def Db.abs (db : Db) : AMap := fun t i => db.find t i

theorem Db.abs_setTbl (db : Db) (t : Table) (m : PMap) (i : Nat) (v : Option Nat)
    (h : ∀ i', m.find i' = if i' = i then v else (db.tbl t).find i') :
    (db.setTbl t m).abs = db.abs.set t i v := by
  funext t' i'
  simp only [Db.abs, Db.find, Db.tbl_setTbl, AMap.set]
  by_cases ht : t' = t
  · subst ht; by_cases hi : i' = i <;> simp [h, hi]
  · simp [ht]

theorem Db.step_refines (db : Db) (op : DbOp) :
    (db.step op).2 = (db.abs.step op).2 ∧ (db.step op).1.abs = (db.abs.step op).1 := by
  have habs : ∀ t i, db.abs t i = db.find t i := fun _ _ => rfl
  cases op with
  | add t i v =>
    cases h : db.find t i <;> simp [Db.step, AMap.step, habs, h]
    exact Db.abs_setTbl db t _ i (some v) fun i' => by simp [PMap.find, eq_comm]
  | update t i v =>
    cases h : db.find t i <;> simp [Db.step, AMap.step, habs, h]
    exact Db.abs_setTbl db t _ i (some v) fun i' => by rw [PMap.find_replace, ← Db.find, h]; rfl
  | delete t i =>
    cases h : db.find t i <;> simp [Db.step, AMap.step, habs, h]
    exact Db.abs_setTbl db t _ i none (PMap.find_erase _ i)
  | get t i => cases h : db.find t i <;> simp [Db.step, AMap.step, habs, h]

theorem Db.run_refines (db : Db) (ops : List DbOp) :
    (db.run ops).2 = (db.abs.run ops).2 ∧ (db.run ops).1.abs = (db.abs.run ops).1 := by
  induction ops generalizing db with
  | nil => exact ⟨rfl, rfl⟩
  | cons op ops ih =>
    obtain ⟨h1, h2⟩ := Db.step_refines db op
    obtain ⟨h3, h4⟩ := ih (db.step op).1
    simp only [Db.run, AMap.run]
    rw [h2] at h3 h4
    exact ⟨by rw [h1, h3], h4⟩

theorem Db.find_run (db : Db) (ops : List DbOp) (t : Table) (i : Nat) :
    (db.run ops).1.find t i = (db.abs.run ops).1 t i :=
  congrFun (congrFun (Db.run_refines db ops).2 t) i

theorem Db.run_append (db : Db) (a b : List DbOp) :
    db.run (a ++ b) = (((db.run a).1.run b).1, (db.run a).2 ++ ((db.run a).1.run b).2) := by
  induction a generalizing db with
  | nil => simp [Db.run]
  | cons op ops ih => simp [Db.run, ih]

theorem readPoint_ok {db : Db} {t : Table} {a v : Nat} (h : readPoint db t a = .ok v) :
    db.find t a = some v := by
  unfold readPoint at h; split at h <;> cases h; assumption

theorem readPoint_error {db : Db} {t : Table} {a e : Nat} (h : readPoint db t a = .error e) :
    e = 2 ∧ db.find t a = none := by
  unfold readPoint at h; split at h <;> cases h; exact ⟨rfl, ‹_›⟩

/-- if some address of the list fails, the loop stops at the first failing address: it has queried
    exactly the prefix up to and including it -/
theorem readSeq_first_error {α : Type} (get : Nat → Except Nat α) (as : List Nat)
    (x : Nat) (hx : x ∈ as) (e : Nat) (hfail : get x = .error e) :
    ∃ pre y post e', as = pre ++ y :: post ∧ (∀ z ∈ pre, ∃ v, get z = .ok v) ∧
      get y = .error e' ∧ readSeq get as = (pre ++ [y], .error e') := by
  induction as with
  | nil => cases hx
  | cons a rest ih =>
    cases hga : get a with
    | error e' => exact ⟨[], a, rest, e', rfl, nofun, hga, readSeq_cons_error rest hga⟩
    | ok v =>
      have hx' : x ∈ rest := by
        rcases List.mem_cons.mp hx with rfl | h
        · rw [hga] at hfail; cases hfail
        · exact h
      obtain ⟨pre, y, post, e', h1, h2, h3, h4⟩ := ih hx'
      exact ⟨a :: pre, y, post, e', by rw [h1]; rfl, List.forall_mem_cons.mpr ⟨⟨v, hga⟩, h2⟩, h3,
        by rw [readSeq_cons_ok rest hga, h4]; rfl⟩

theorem readSeq_map {α β : Type} (f : α → β) (get : Nat → Except Nat α) (as : List Nat) :
    readSeq (fun a => (get a).map f) as = ((readSeq get as).1, (readSeq get as).2.map (List.map f)) := by
  induction as with
  | nil => rfl
  | cons a rest ih =>
    cases h : get a with
    | error e => rw [readSeq_cons_error rest h, readSeq_cons_error rest (by rw [h]; rfl)]; rfl
    | ok v =>
      rw [readSeq_cons_ok rest h, readSeq_cons_ok (v := f v) rest (by rw [h]; rfl), ih]
      cases (readSeq get rest).2 <;> rfl

theorem serial_append (db : Db) (ps qs : List Prog) :
    serial db (ps ++ qs) =
      ((serial (serial db ps).1 qs).1, (serial db ps).2 ++ (serial (serial db ps).1 qs).2) := by
  induction ps generalizing db with
  | nil => simp [serial]
  | cons p ps ih => simp [serial, ih]

theorem serial_length (db : Db) (ps : List Prog) : (serial db ps).2.length = ps.length := by
  induction ps generalizing db with
  | nil => rfl
  | cons p ps ih => simp [serial, ih]

def finishTx (db : Db) (acc : List DbRes) : List DbOp → Db × List DbRes
  | [] => (db, acc)
  | op :: ops => finishTx (db.step op).1 (acc ++ [(db.step op).2]) ops

def finishRead (db : Db) (t : Table) (acc : List Nat) : List Nat → RdOut
  | [] => .ok acc
  | a :: as =>
    match readPoint db t a with
    | .ok v => finishRead db t (acc ++ [v]) as
    | .error e => .error e

/-- what the lock holder will have produced once it has run to completion from `db` -/
def Running.finish (r : Running) (db : Db) : Db × Outcome :=
  match r with
  | .tx _ _ todo acc => ((finishTx db acc todo).1, .tx (finishTx db acc todo).2)
  | .read _ _ t todo acc failed =>
    match failed with
    | some e => (db, .read (.error e))
    | none => (db, .read (finishRead db t acc todo))

theorem finishTx_eq (db : Db) (acc : List DbRes) (ops : List DbOp) :
    finishTx db acc ops = ((db.run ops).1, acc ++ (db.run ops).2) := by
  induction ops generalizing db acc with
  | nil => simp [finishTx, Db.run]
  | cons op ops ih => simp [finishTx, Db.run, ih]

theorem finishRead_eq (db : Db) (t : Table) (acc : List Nat) (as : List Nat) :
    finishRead db t acc as =
      match (readSeq (readPoint db t) as).2 with
      | .ok vs => .ok (acc ++ vs)
      | .error e => .error e := by
  induction as generalizing acc with
  | nil => simp [finishRead, readSeq]
  | cons a rest ih =>
    cases h : readPoint db t a with
    | error e => simp [finishRead, readSeq, h]
    | ok v =>
      simp only [finishRead, readSeq, h, ih]
      cases (readSeq (readPoint db t) rest).2 <;> simp [Except.map]

theorem Running.finish_start (id : Nat) (p : Prog) (db : Db) :
    (Running.start id p).finish db = p.atomic db := by
  cases p with
  | tx ops => simp [Running.start, Running.finish, finishTx_eq, Prog.atomic]
  | read t addrs =>
    simp only [Running.start, Running.finish, finishRead_eq, Prog.atomic]
    cases (readSeq (readPoint db t) addrs).2 <;> simp [RdOut.ofExcept]

theorem Running.finish_micro (r : Running) (db : Db) :
    (r.micro db).1.finish (r.micro db).2 = r.finish db := by
  unfold Running.micro
  split
  · rfl
  · split <;> simp only [Running.finish, finishRead, *]
  · rfl

theorem Running.finish_done (r : Running) (db : Db) (h : r.isDone = true) :
    r.finish db = (db, r.outcome) := by
  cases r with
  | tx id p todo acc =>
    cases todo with
    | nil => rfl
    | cons op ops => cases h
  | read id p t todo acc failed =>
    cases failed with
    | some e => rfl
    | none =>
      cases todo with
      | nil => rfl
      | cons a as => cases h

theorem Running.micro_id_prog (r : Running) (db : Db) :
    (r.micro db).1.id = r.id ∧ (r.micro db).1.prog = r.prog := by
  unfold Running.micro
  split
  · exact ⟨rfl, rfl⟩
  · split <;> exact ⟨rfl, rfl⟩
  · exact ⟨rfl, rfl⟩

theorem Running.start_id (id : Nat) (p : Prog) : (Running.start id p).id = id := by
  cases p <;> rfl

theorem Running.start_prog (id : Nat) (p : Prog) : (Running.start id p).prog = p := by
  cases p <;> rfl

/-- the invariant of the lock model: the log is a serial execution from the initial database
    ending in `base`; the current database is `base`, or is on the way to the result of appending
    the lock holder to that serial execution -/
structure LInv (db0 : Db) (actors : List (Nat × Prog)) (s : LState) (base : Db) : Prop where
  serial_log : serial db0 (s.log.map (·.2.1)) = (base, s.log.map (·.2.2))
  idle : s.holder = none → s.db = base
  busy : ∀ r, s.holder = some r → r.finish s.db = r.prog.atomic base
  log_from : ∀ e ∈ s.log, (e.1, e.2.1) ∈ actors
  holder_from : ∀ r, s.holder = some r → (r.id, r.prog) ∈ actors
  pending_from : ∀ e ∈ s.pending, e ∈ actors

theorem LInv.init (db0 : Db) (actors : List (Nat × Prog)) :
    LInv db0 actors (LState.init db0 actors) db0 where
  serial_log := rfl
  idle := fun _ => rfl
  busy := fun _ h => nomatch h
  log_from := fun _ h => nomatch h
  holder_from := fun _ h => nomatch h
  pending_from := fun _ h => h

theorem LInv.sched {db0 : Db} {actors : List (Nat × Prog)} {s : LState} {base : Db}
    (inv : LInv db0 actors s base) (a : Nat) : ∃ base', LInv db0 actors (s.sched a) base' := by
  unfold LState.sched
  cases hh : s.holder with
  | some r =>
    dsimp only
    by_cases hid : r.id ≠ a
    · rw [if_pos hid]; exact ⟨base, inv⟩
    · rw [if_neg hid]
      cases hd : r.isDone with
      | true =>
        -- release: what the holder promised joins the log, the database becomes the new base
        rw [if_pos rfl]
        have hb := inv.busy r hh
        rw [Running.finish_done r s.db hd] at hb
        refine ⟨s.db, { inv with
          serial_log := ?_
          idle := fun _ => rfl
          busy := fun _ h => nomatch h
          log_from := ?_
          holder_from := fun _ h => nomatch h }⟩
        · simp only [List.map_append, List.map_cons, List.map_nil]
          rw [serial_append, inv.serial_log, serial, serial, ← hb]
        · intro e he
          rcases List.mem_append.mp he with h | h
          · exact inv.log_from e h
          · cases List.mem_singleton.mp h; exact inv.holder_from r hh
      | false =>
        rw [if_neg Bool.false_ne_true]
        refine ⟨base, { inv with idle := (fun h => nomatch h), busy := ?_, holder_from := ?_ }⟩
        · rintro _ ⟨⟩
          rw [Running.finish_micro, (r.micro_id_prog s.db).2]
          exact inv.busy r hh
        · rintro _ ⟨⟩
          rw [(r.micro_id_prog s.db).1, (r.micro_id_prog s.db).2]
          exact inv.holder_from r hh
  | none =>
    dsimp only
    cases hf : s.pending.find? (·.1 = a) with
    | none => exact ⟨base, inv⟩
    | some e =>
      obtain ⟨id, p⟩ := e
      have hid : id = a := by simpa using List.find?_some hf
      refine ⟨base, { inv with idle := (fun h => nomatch h), busy := ?_, holder_from := ?_, pending_from := ?_ }⟩
      · rintro _ ⟨⟩
        rw [Running.finish_start, Running.start_prog, inv.idle hh]
      · rintro _ ⟨⟩
        rw [Running.start_id, Running.start_prog, ← hid]
        exact inv.pending_from _ (List.mem_of_find?_eq_some hf)
      · exact fun e he => inv.pending_from e (List.mem_filter.mp he).1

theorem LInv.run {db0 : Db} {actors : List (Nat × Prog)} {s : LState} {base : Db}
    (inv : LInv db0 actors s base) (schedule : List Nat) :
    ∃ base', LInv db0 actors (s.run schedule) base' :=
  List.foldlRecOn (motive := fun s => ∃ b, LInv db0 actors s b) schedule _ ⟨base, inv⟩
    fun _ ⟨_, inv⟩ a _ => inv.sched a

/-- a serial execution only depends on its transactions as far as the database is concerned -/
theorem serial_db_reads (db : Db) (ps : List Prog) :
    (serial db ps).1 = (serial db (ps.filter fun p => match p with | .tx _ => true | .read _ _ => false)).1 := by
  induction ps generalizing db with
  | nil => rfl
  | cons p ps ih =>
    cases p with
    | tx ops => simp [serial, ih]
    | read t addrs => simp [serial, Prog.atomic, ih]

theorem serial_split (db : Db) (pre : List Prog) (p : Prog) (post : List Prog) :
    (serial db (pre ++ p :: post)).2 =
      (serial db pre).2 ++ (p.atomic (serial db pre).1).2 :: (serial (p.atomic (serial db pre).1).1 post).2 := by
  rw [serial_append]; simp [serial]

theorem DeviceMap.lookup_append (m : DeviceMap) (u u' : Nat) (db : Db) :
    (DeviceMap.mk (m.units ++ [(u, db)])).lookup u' =
      (m.lookup u').or (if u = u' then some db else none) := by
  simp only [DeviceMap.lookup, List.find?_append, Option.map_or, List.find?_singleton]
  by_cases hu : u = u' <;> simp [hu]

theorem DeviceMap.any_iff_lookup (m : DeviceMap) (u : Nat) :
    m.units.any (·.1 = u) = (m.lookup u).isSome := by
  rw [DeviceMap.lookup, Option.isSome_map, Bool.eq_iff_iff, List.any_eq_true, List.find?_isSome]

theorem range_map_getElem? {α : Type} (l : List α) (n : Nat) :
    (List.range n).map (l[·]?) = (l.take n).map some ++ List.replicate (n - l.length) none := by
  induction n with
  | zero => simp
  | succ n ih =>
    rw [List.range_succ, List.map_append, ih, List.map_singleton, List.take_add_one, List.map_append]
    by_cases h : n < l.length
    · rw [List.getElem?_eq_getElem h, Nat.sub_eq_zero_of_le (Nat.le_of_lt h), Nat.sub_eq_zero_of_le h]
      simp
    · have h := Nat.le_of_not_lt h
      rw [List.getElem?_eq_none h, Nat.succ_sub h, List.replicate_succ']
      simp

end Rodbus.Ffi
