import RodbusModel.Model.Client
/-
  What the operations of the client task model (Model/Client.lean) do, each said once: the fields an
  operation writes (`*_writes`, `finish_frame`: the result as ONE record update of the argument),
  the cases it has (`afterRequest_cases`, `Started`, `Applied`), the equations of the `select!`
  loops in terms of the reader's result and the coin, when the task is blocked (`*_eq_none`), and
  one unfolding of `settle` and `advance`.

  A goal about a field of nested updaters, `(endPhase (complete s r res) k).pst = s.pst`, must not be
  closed by `rfl`: the unifier compares `endPhase … =?= s` by eta over the 22 fields of `State`, once
  per nesting level.  Rewrite with one of the statements here (or unfold the updaters by
  `simp only`) so that a single record update is left.
-/
namespace Rodbus.Client

/-- the id of the request in flight, as a list: `inflightIds p = []` is how the guards say that none
    is; the exactly-once balance (`Bal`, Lemmas/ClientInv) counts its members -/
def inflightIds : Pos → List Rid
  | .inflight _ r _ _ => [r.rid]
  | _ => []

theorem inflightIds_idle (m : Nat) : inflightIds (.idle m) = [] := rfl

def Cmd.isReq : Cmd → Bool
  | .req _ => true
  | _ => false

/-- a result that the reader reports or that is made of a reply it delivers: none of the results
    the task produces by itself -/
def ReaderRes (res : Res) : Prop := res ≠ .noConn ∧ res ≠ .shutdown ∧ res ≠ .timeout

theorem frameErrRes_ne (e : FrameErr) : ReaderRes (frameErrRes e) := by
  cases e <;> simp [ReaderRes, frameErrRes]

/-- `respResult`, exactly: what `Request::handle_response` returned, as a completion -/
theorem respResult_cases (req : ClientReq) (pdu : Bytes) :
    (∃ v, handleResponse req pdu = .ok v ∧ respResult req pdu = .ok v)
      ∨ (∃ c, handleResponse req pdu = .error (.exception c) ∧ respResult req pdu = .exc c)
      ∨ (handleResponse req pdu = .error .badResponse ∧ respResult req pdu = .badResp)
      ∨ (handleResponse req pdu = .error .badRequest
          ∧ (respResult req pdu = .badResp ∨ ∃ e, respResult req pdu = .badReq e)) := by
  unfold respResult
  split
  · rename_i v h; exact .inl ⟨v, h, rfl⟩
  · rename_i c h; exact .inr (.inl ⟨c, h, rfl⟩)
  · rename_i h; exact .inr (.inr (.inl ⟨h, rfl⟩))
  · rename_i h
    refine .inr (.inr (.inr ⟨h, ?_⟩))
    repeat' split
    all_goals first | exact .inl rfl | exact .inr ⟨_, rfl⟩

theorem respResult_ok_iff (req : ClientReq) (pdu : Bytes) (v : RespVal) :
    respResult req pdu = .ok v ↔ handleResponse req pdu = .ok v := by
  rcases respResult_cases req pdu with ⟨_, h1, h2⟩ | ⟨_, h1, h2⟩ | ⟨h1, h2⟩
      | ⟨h1, h2 | ⟨_, h2⟩⟩ <;> rw [h1, h2] <;> simp

theorem respResult_exc_iff (req : ClientReq) (pdu : Bytes) (c : Nat) :
    respResult req pdu = .exc c ↔ handleResponse req pdu = .error (.exception c) := by
  rcases respResult_cases req pdu with ⟨_, h1, h2⟩ | ⟨_, h1, h2⟩ | ⟨h1, h2⟩
      | ⟨h1, h2 | ⟨_, h2⟩⟩ <;> rw [h1, h2] <;> simp

theorem respResult_ne (req : ClientReq) (pdu : Bytes) :
    ReaderRes (respResult req pdu) ∧ respResult req pdu ≠ .internal
      ∧ (respResult req pdu).sessionEnd = none := by
  rcases respResult_cases req pdu with ⟨_, _, h⟩ | ⟨_, _, h⟩ | ⟨_, h⟩ | ⟨_, h | ⟨_, h⟩⟩ <;>
    rw [h] <;> simp [ReaderRes, Res.sessionEnd]

theorem Res.sessionEnd_ne_maxTo {res : Res} {k : EndKind} (h : res.sessionEnd = some k) (n : Nat) :
    k ≠ .maxTo n := by
  rintro rfl; cases res <;> simp [Res.sessionEnd] at h

section
variable {σ : Type}

theorem getMock_setMock (u : State σ) (m : Nat) (k : Mock) (h : m < u.mocks.length) :
    getMock (setMock u m k) m = k := by
  simp [getMock, setMock, List.getD_eq_getElem?_getD, h]

theorem setMock_setMock (u : State σ) (m : Nat) (k1 k2 : Mock) :
    setMock (setMock u m k1) m k2 = setMock u m k2 := by
  simp [setMock, List.set_set]

theorem setMock_getMock (u : State σ) (m : Nat) (h : m < u.mocks.length) :
    setMock u m (getMock u m) = u := by
  have : u.mocks.set m (u.mocks.getD m {}) = u.mocks := by
    rw [List.getD_eq_getElem?_getD, List.getElem?_eq_getElem h]
    simp
  show { u with mocks := u.mocks.set m (u.mocks.getD m {}) } = u
  rw [this]

theorem pushRx_latest (u : State σ) (m : Nat) (hm : m + 1 = u.mocks.length) (x : Rx) :
    pushRx u x = setMock u m { getMock u m with rx := (getMock u m).rx ++ [x] } := by
  unfold pushRx
  rw [← hm]

theorem flip_writes (s : State σ) : ∃ cs, (flip s).2 = { s with coins := cs } := by
  unfold flip; cases s.coins <;> exact ⟨_, rfl⟩

theorem readerPoll_fail_cases (F : Framing σ) (fuel : Nat) (st : σ) (rb : RB) (rx : List Rx)
    (res : Res) (x : σ × RB × List Rx) (h : readerPoll F fuel st rb rx = (.fail res, x)) :
    (∃ e, res = frameErrRes e) ∨ res = .io .reset ∨ res = .io .eof := by
  fun_induction readerPoll F fuel st rb rx with
  | case3 fuel st rb rx e _ rb' hp => cases h; exact .inl ⟨e, rfl⟩
  | case5 => cases h; exact .inr (.inl rfl)
  | case6 | case7 | case8 => cases h; exact .inr (.inr rfl)
  | case9 fuel st rb st' rb' hp bs rest hbs rb'' rem hr ih => exact ih h
  | _ => cases h

theorem pollReader_fst (F : Framing σ) (s : State σ) (m : Nat) :
    (pollReader F s m).1
      = (readerPoll F (readerFuel (getMock s m).rx) s.pst s.rb (getMock s m).rx).1 := rfl

theorem pollReader_frame (F : Framing σ) (s t : State σ) (m : Nat) (h1 : t.pst = s.pst)
    (h2 : t.rb = s.rb) (h3 : t.mocks = s.mocks) :
    pollReader F t m = ((pollReader F s m).1,
      { t with pst := (pollReader F s m).2.pst, rb := (pollReader F s m).2.rb,
               mocks := (pollReader F s m).2.mocks }) := by
  unfold pollReader getMock setMock
  rw [h1, h2, h3]

theorem pollReader_congr (F : Framing σ) (s t : State σ) (m : Nat) (h1 : t.pst = s.pst)
    (h2 : t.rb = s.rb) (h3 : t.mocks = s.mocks) : (pollReader F t m).1 = (pollReader F s m).1 := by
  rw [pollReader_frame F s t m h1 h2 h3]

theorem pollReader_writes (F : Framing σ) (s : State σ) (m : Nat) :
    ∃ st rb mocks, (pollReader F s m).2 = { s with pst := st, rb := rb, mocks := mocks } :=
  ⟨_, _, _, rfl⟩

theorem pollReader_flip (F : Framing σ) (s : State σ) (m : Nat) :
    pollReader F (flip s).2 m
      = ((pollReader F s m).1, { (pollReader F s m).2 with coins := (flip s).2.coins }) := by
  obtain ⟨cs, h⟩ := flip_writes s
  obtain ⟨st, rb, mk, hw⟩ := pollReader_writes F s m
  rw [h, pollReader_frame F s { s with coins := cs } m rfl rfl rfl, hw]

theorem pollReader_fail_cases (F : Framing σ) (s : State σ) (m : Nat) (res : Res)
    (h : (pollReader F s m).1 = .fail res) :
    (∃ e, res = frameErrRes e) ∨ res = .io .reset ∨ res = .io .eof :=
  readerPoll_fail_cases F _ _ _ _ res _ (Prod.ext ((pollReader_fst F s m).symm.trans h) rfl)

theorem pollReader_fail (F : Framing σ) (s : State σ) (m : Nat) (res : Res)
    (h : (pollReader F s m).1 = .fail res) : ReaderRes res := by
  rcases pollReader_fail_cases F s m res h with ⟨e, rfl⟩ | rfl | rfl
  · exact frameErrRes_ne e
  · simp [ReaderRes]
  · simp [ReaderRes]

/-- with what a request taken from the queue fails before it is in flight: it cannot be encoded,
    the write fails, or the bytes buffered before it are malformed -/
def DequeueRes (res : Res) : Prop :=
  (∃ e, res = .badReq e) ∨ res = .io .pipe ∨ ∃ e, res = frameErrRes e

theorem discardBuffered_err (F : Framing σ) (fuel : Nat) (st : σ) (rb : RB) (res : Res)
    (x : σ × RB) (h : discardBuffered F fuel st rb = (some res, x)) : ∃ e, res = frameErrRes e := by
  fun_induction discardBuffered F fuel st rb with
  | case2 fuel st rb f st' rb' hp ih => exact ih h
  | case4 fuel st rb e _ rb' hp => cases h; exact ⟨e, rfl⟩
  | _ => cases h

/-- what `run_one_request` does once the request has finished: the phase ends (with the session
    error of the result, or because the timeout limit is reached), or the loop goes on -/
theorem afterRequest_cases (s : State σ) (m : Nat) (res : Res) :
    (∃ k, res.sessionEnd = some k ∧ afterRequest s m res = endPhase s k)
      ∨ (res = .timeout ∧ s.maxTo ≠ 0 ∧ s.maxTo ≤ s.nto + 1
          ∧ afterRequest s m res = endPhase { s with nto := s.nto + 1 } (.maxTo s.maxTo))
      ∨ (res.sessionEnd = none
          ∧ ∃ n, afterRequest s m res = { s with nto := n, pos := .idle m }
            ∧ (res ≠ .timeout → n = 0)
            ∧ (res = .timeout → (s.maxTo = 0 ∧ n = s.nto) ∨ (n = s.nto + 1 ∧ n < s.maxTo))) := by
  unfold afterRequest
  cases hk : res.sessionEnd with
  | some k => exact .inl ⟨k, rfl, rfl⟩
  | none =>
    refine .inr ?_
    by_cases ht : res = .timeout
    · by_cases h0 : s.maxTo = 0
      · exact .inr ⟨rfl, s.nto, by rw [if_pos ht, if_pos h0], fun h => absurd ht h,
          fun _ => .inl ⟨h0, rfl⟩⟩
      · by_cases h1 : s.nto + 1 ≥ s.maxTo
        · exact .inl ⟨ht, h0, h1, by rw [if_pos ht, if_neg h0, if_pos h1]⟩
        · exact .inr ⟨rfl, s.nto + 1, by rw [if_pos ht, if_neg h0, if_neg h1],
            fun h => absurd ht h, fun _ => .inr ⟨rfl, Nat.lt_of_not_ge h1⟩⟩
    · exact .inr ⟨rfl, 0, by rw [if_neg ht], fun _ => rfl, fun h => absurd h ht⟩

theorem finish_frame (s : State σ) (m : Nat) (r : Req) (res : Res) :
    ∃ fin nto pos, (fin = [] ∨ ∃ k, fin = [.fin k s.now]) ∧ (pos = .noPhase ∨ pos = .idle m)
      ∧ finish s m r res
        = { s with log := fin ++ .done r.rid r.style res s.now :: s.log,
                   held := if r.style = .future then s.held + 1 else s.held,
                   nto := nto, pos := pos } := by
  unfold finish
  rcases afterRequest_cases (complete s r res) m res with ⟨k, _, h⟩ | ⟨_, _, _, h⟩ | ⟨_, n, h, _⟩ <;>
    rw [h] <;> simp only [endPhase, emit, complete]
  · exact ⟨[_], _, _, .inr ⟨k, rfl⟩, .inl rfl, rfl⟩
  · exact ⟨[_], _, _, .inr ⟨_, rfl⟩, .inl rfl, rfl⟩
  · exact ⟨[], _, _, .inl rfl, .inr rfl, rfl⟩

theorem finish_log (s : State σ) (m : Nat) (r : Req) (res : Res) :
    ∃ fin, (fin = [] ∨ ∃ k, fin = [.fin k s.now])
      ∧ (finish s m r res).log = fin ++ .done r.rid r.style res s.now :: s.log := by
  obtain ⟨fin, _, _, hf, _, h⟩ := finish_frame s m r res
  exact ⟨fin, hf, by rw [h]⟩

theorem finish_pos_not_inflight (s : State σ) (m : Nat) (r : Req) (res : Res) (m' : Nat)
    (r' : Req) (tx dl : Nat) : (finish s m r res).pos ≠ .inflight m' r' tx dl := by
  obtain ⟨_, _, _, _, hp, h⟩ := finish_frame s m r res
  rw [h]
  rcases hp with rfl | rfl <;> nofun

theorem finish_sent (s : State σ) (m : Nat) (r : Req) (res : Res) :
    (finish s m r res).sent = s.sent := by
  obtain ⟨_, _, _, _, _, h⟩ := finish_frame s m r res
  rw [h]

/-- the state in which a request that was taken from the queue but not written is completed:
    `s` with the transaction id drawn, the read buffer as the discard loop left it, the failure
    of the write consumed -/
inductive StartFail (F : Framing σ) (s : State σ) (m : Nat) (r : Req) : State σ → Res → Prop
  | encode (e : ReqErr) : encodeRequest r.req = .error e →
      StartFail F s m r { s with tx := nextTx s.tx, dequeued := (r.rid, s.tx) :: s.dequeued }
        (.badReq e)
  | discard (pdu : Bytes) (res : Res) (st' : σ) (rb' : RB) : encodeRequest r.req = .ok pdu →
      discardBuffered F (discardFuel s.rb) s.pst s.rb = (some res, st', rb') →
      StartFail F s m r
        { s with tx := nextTx s.tx, dequeued := (r.rid, s.tx) :: s.dequeued, pst := st', rb := rb' }
        res
  | write (pdu : Bytes) (st' : σ) (rb' : RB) : encodeRequest r.req = .ok pdu →
      discardBuffered F (discardFuel s.rb) s.pst s.rb = (none, st', rb') →
      (getMock s m).wErr = true →
      StartFail F s m r
        { s with tx := nextTx s.tx, dequeued := (r.rid, s.tx) :: s.dequeued, pst := st', rb := rb',
                 mocks := s.mocks.set m { getMock s m with wErr := false } } (.io .pipe)

theorem StartFail.writes {F : Framing σ} {s y : State σ} {m : Nat} {r : Req} {res : Res}
    (h : StartFail F s m r y res) :
    ∃ pst rb mocks, y = { s with tx := nextTx s.tx, dequeued := (r.rid, s.tx) :: s.dequeued,
                                 pst := pst, rb := rb, mocks := mocks } := by
  cases h <;> exact ⟨_, _, _, rfl⟩

theorem StartFail.res {F : Framing σ} {s y : State σ} {m : Nat} {r : Req} {res : Res}
    (h : StartFail F s m r y res) : DequeueRes res := by
  cases h with
  | encode e he => exact .inl ⟨e, rfl⟩
  | discard pdu res st' rb' he hd => exact .inr (.inr (discardBuffered_err F _ _ _ res _ hd))
  | write pdu st' rb' he hd hw => exact .inr (.inl rfl)

/-- `startRequest F s m r`, exactly: the request is completed at once (`StartFail`), or its frame
    is written and it is in flight -/
inductive Started (F : Framing σ) (s : State σ) (m : Nat) (r : Req) : State σ → Prop
  | fail (y : State σ) (res : Res) : StartFail F s m r y res → Started F s m r (finish y m r res)
  | sent (pdu : Bytes) (st' : σ) (rb' : RB) : encodeRequest r.req = .ok pdu →
      discardBuffered F (discardFuel s.rb) s.pst s.rb = (none, st', rb') →
      (getMock s m).wErr = false →
      Started F s m r
        { s with tx := nextTx s.tx, dequeued := (r.rid, s.tx) :: s.dequeued, pst := st', rb := rb',
                 sent := (r.rid, s.tx, F.format s.tx r.unit pdu) :: s.sent,
                 log := if isLatest s m then .tx (F.format s.tx r.unit pdu) :: s.log else s.log,
                 pos := .inflight m r s.tx (s.now + r.timeout) }

theorem startRequest_started (F : Framing σ) (s : State σ) (m : Nat) (r : Req) :
    Started F s m r (startRequest F s m r) := by
  unfold startRequest
  simp only []
  cases he : encodeRequest r.req with
  | error e => exact .fail _ _ (.encode e he)
  | ok pdu =>
    simp only []
    split
    · rename_i res st' rb' hd; exact .fail _ _ (.discard pdu res st' rb' he hd)
    · rename_i st' rb' hd
      split
      · rename_i hw; exact .fail _ _ (.write pdu st' rb' he hd hw)
      · rename_i hw
        have h := Started.sent (F := F) (s := s) (m := m) (r := r) pdu st' rb' he hd
          (Bool.eq_false_iff.mpr hw)
        generalize hb : isLatest _ m = b
        have hb' : isLatest s m = b := hb
        rw [hb'] at h
        cases b <;> exact h

theorem runCmd_eq_failCmd (F : Framing σ) (s : State σ) (m : Nat) {c : Cmd} (hc : c.isReq = false) :
    runCmd F s m c = failCmd s c := by
  cases c <;> first | rfl | cases hc

/-- the completions logged when the requests `rs` complete with `res` at the time of `s`, newest
    first -/
def doneEntries (s : State σ) (res : Res) (rs : List Req) : List LogEntry :=
  (rs.map fun r => LogEntry.done r.rid r.style res s.now).reverse

theorem mem_doneEntries {s : State σ} {res : Res} {rs : List Req} {e : LogEntry} :
    e ∈ doneEntries s res rs ↔ ∃ r ∈ rs, .done r.rid r.style res s.now = e := by
  simp only [doneEntries, List.mem_reverse, List.mem_map]

theorem completeAll_eq (s : State σ) (res : Res) (rs : List Req) :
    ∃ held, completeAll s res rs
      = { s with log := doneEntries s res rs ++ s.log, held := held } := by
  induction rs generalizing s with
  | nil => exact ⟨s.held, rfl⟩
  | cons r rs ih =>
    obtain ⟨h, e⟩ := ih (complete s r res)
    refine ⟨h, ?_⟩
    rw [completeAll, e]
    simp [doneEntries, complete, emit]

/-- what a script step logs when it is refused -/
def isNote : LogEntry → Bool
  | .sub .. | .cmdErr .. => true
  | _ => false

def LogEntry.isDone : LogEntry → Bool
  | .done .. => true
  | _ => false

def LogEntry.isFin : LogEntry → Bool
  | .fin .. => true
  | _ => false

theorem isNote_isDone {e : LogEntry} (h : isNote e = true) : e.isDone = false := by
  cases e <;> first | rfl | cases h

theorem isNote_isFin {e : LogEntry} (h : isNote e = true) : e.isFin = false := by
  cases e <;> first | rfl | cases h

/-- `Applied s st t`: what `applyStep s st = t` can be (`applyStep_cases`), the script steps
    sorted into six effects, each giving `t` as one record update of `s` with the guards that chose
    it -/
inductive Applied (s : State σ) : Step → State σ → Prop
  /-- nothing the task's control sees: phases are scheduled, transports created or fed, handles
      cloned or dropped; or nothing happens (a dropped handle, no task, `advance`) -/
  | quiet (st : Step) (ph : List Phase) (mk : List Mock) (hd : List Bool) :
      Applied s st { s with phases := ph, mocks := mk, handles := hd }
  /-- a refusal is logged: no live handle, a request that fails validation, a setting sent with
      `try_send` that finds no task or a full queue -/
  | note (st : Step) (e : LogEntry) : isNote e = true → Applied s st (emit s e)
  /-- a submission is accepted and completed at once: a validation error found after the promise
      was made, or `shutdown` because the task is gone or, with `try_send`, the queue is full; the
      try-send style logs a `sub` entry as well -/
  | acceptDone (op : SubmitOp) (h : Nat) (r : Req) (res : Res) (extra : List LogEntry) :
      (extra = [] ∨ ∃ e, extra = [.sub r.rid e]) →
      ((∃ e, res = .badReq e)
        ∨ (res = .shutdown ∧ (s.alive = false ∨ (op = .T ∧ s.cap ≤ s.queue.length)))) →
      Applied s (.submit op h r)
        { s with accepted := r.rid :: s.accepted,
                 log := extra ++ .done r.rid r.style res s.now :: s.log,
                 held := if r.style = .future then s.held + 1 else s.held }
  | acceptQueue (op : SubmitOp) (h : Nat) (r : Req) (w : Nat) : s.alive = true →
      Applied s (.submit op h r)
        { s with accepted := r.rid :: s.accepted, queue := s.queue ++ [.req r], waited := w }
  /-- a setting or the shutdown command is queued for the living task -/
  | enqueueCmd (st : Step) (c : Cmd) (w : Nat) : c.isReq = false → s.alive = true →
      Applied s st { s with queue := s.queue ++ [c], waited := w }
  /-- the living task is dropped: the request in flight and the queued ones complete with
      `shutdown` -/
  | abort (held : Nat) : s.alive = true →
      Applied s .abort
        { s with log := doneEntries s .shutdown (inflightReqs s ++ reqsOf s.queue) ++ s.log,
                 held := held, alive := false, queue := [], pos := .noPhase, phases := [] }

theorem submit_applied (s : State σ) (op : SubmitOp) (h : Nat) (r : Req) :
    Applied s (.submit op h r) (submit s op r) := by
  have ha : (accept s r.rid).alive = s.alive := rfl
  have done : ∀ res, ((∃ e, res = .badReq e)
        ∨ (res = .shutdown ∧ (s.alive = false ∨ (op = .T ∧ s.cap ≤ s.queue.length)))) →
      Applied s (.submit op h r) (complete (accept s r.rid) r res)
        ∧ ∀ e, Applied s (.submit op h r) (emit (complete (accept s r.rid) r res) (.sub r.rid e)) :=
    fun res hres => by
      simp only [emit, complete, accept]
      exact ⟨.acceptDone op h r res [] (.inl rfl) hres,
        fun e => .acceptDone op h r res [.sub r.rid e] (.inr ⟨e, rfl⟩) hres⟩
  unfold submit
  cases precheck (op = .Q) r.req with
  | refuse e => exact .note _ _ rfl
  | invalid e bits =>
    cases op
    case T => exact (done _ (.inl ⟨_, rfl⟩)).2 _
    all_goals exact (done _ (.inl ⟨_, rfl⟩)).1
  | pass =>
    cases hal : s.alive
    · cases op <;> simp only [ha, hal]
      case T => exact (done _ (.inr ⟨rfl, .inl hal⟩)).2 _
      all_goals exact (done _ (.inr ⟨rfl, .inl hal⟩)).1
    · cases op <;> simp only [ha, hal]
      case T =>
        by_cases hq : (accept s r.rid).queue.length ≥ (accept s r.rid).cap
        · simp only [if_pos hq]
          exact (done _ (.inr ⟨rfl, .inr ⟨rfl, hq⟩⟩)).2 _
        · simp only [if_neg hq]
          simp only [enqueue, accept]
          exact .acceptQueue _ h r _ hal
      all_goals simp only [enqueue, accept]; exact .acceptQueue _ h r _ hal

/-- a setting sent with `try_send` through a handle (`b`: the handle is alive) -/
theorem trySetting_applied (s : State σ) (st : Step) (b : Bool) (op : CmdOp) (c : Cmd)
    (hc : c.isReq = false) : Applied s st (if b then trySetting s op c else s) := by
  cases b
  · exact .quiet st _ _ _
  · rw [if_pos rfl]
    unfold trySetting
    split
    · exact .note st _ rfl
    · rename_i h
      exact .enqueueCmd st c _ hc (by cases hs : s.alive <;> simp [hs] at h ⊢)

theorem applyStep_cases (s : State σ) (st : Step) : Applied s st (applyStep s st) := by
  cases st with
  | newSession => simp only [applyStep, addPhase]; split <;> exact .quiet _ _ _ _
  | waitEnabled => simp only [applyStep, addPhase]; split <;> exact .quiet _ _ _ _
  | failFor ms => simp only [applyStep, addPhase]; split <;> exact .quiet _ _ _ _
  | cloneHandle => exact .quiet _ _ _ _
  | dropHandle i => exact .quiet _ _ _ _
  | rx x => simp only [applyStep, pushRx]; split <;> exact .quiet _ _ _ _
  | failWrite => simp only [applyStep]; split <;> exact .quiet _ _ _ _
  | advance ms => exact .quiet _ _ _ _
  | abort =>
    simp only [applyStep, abort]
    cases ha : s.alive
    · exact .quiet _ _ _ _
    · obtain ⟨held, e⟩ := completeAll_eq s .shutdown (inflightReqs s ++ reqsOf s.queue)
      simp only [Bool.not_true, Bool.false_eq_true, if_false, e]
      exact .abort held ha
  | submit op h r =>
    simp only [applyStep]; split
    · exact submit_applied s op h r
    · exact .note _ _ rfl
  | shutdown h =>
    simp only [applyStep]; split
    · rename_i hh; exact .enqueueCmd _ .shutdown _ rfl (by simp at hh; exact hh.2)
    · exact .quiet _ _ _ _
  | enable h => exact trySetting_applied s _ _ .E .enable rfl
  | disable h => exact trySetting_applied s _ _ .D .disable rfl
  | setDecode d => exact trySetting_applied s _ _ .L (.setDecode d) rfl

theorem abort_alive (s : State σ) : (abort s).alive = false := by
  unfold abort
  split
  · rename_i h; simpa using h
  · rfl

/-- `ClientLoop::poll` in terms of what the reader delivers and the coin -/
theorem tickIdle_eq (F : Framing σ) (s : State σ) (m : Nat) :
    tickIdle F s m =
      match (pollReader F s m).1 with
      | .blocked =>
        match sessionRecv F (pollReader F s m).2 m with
        | some t => some t
        | none => if !(getMock s m).rx.isEmpty then some (pollReader F s m).2 else none
      | r =>
        if recvReady s then
          if (flip s).1 then
            some (idleReader (pollReader F (flip s).2 m).2 r)
          else sessionRecv F (flip s).2 m
        else some (idleReader (pollReader F s m).2 r) := by
  rw [pollReader_flip]; rfl

/-- the response loop of `execute_request` in terms of what the reader delivers and the coin -/
theorem tickInflight_eq (F : Framing σ) (s : State σ) (m : Nat) (q : Req) (tx dl : Nat) :
    tickInflight F s m q tx dl =
      match (pollReader F s m).1 with
      | .blocked =>
        if decide (s.now ≥ dl) = true then some (finish (pollReader F s m).2 m q .timeout)
        else if !(getMock s m).rx.isEmpty then some (pollReader F s m).2 else none
      | r =>
        if decide (s.now ≥ dl) = true then
          if (flip s).1 then some (finish (flip s).2 m q .timeout)
          else some (inflightReader (pollReader F (flip s).2 m).2 m q tx r)
        else some (inflightReader (pollReader F s m).2 m q tx r) := by
  rw [pollReader_flip]; rfl

/-- `fail_requests_for` in terms of the coin -/
theorem tickFail_eq (s : State σ) (dl : Nat) (b : Bool) :
    tickFail s dl b =
      if (decide (s.now ≥ dl) && !b) = true then
        if recvReady s then
          if (flip s).1 then some (endPhase (flip s).2 .elapsed)
          else some { (flip s).2 with pos := .failFor dl true }
        else some (endPhase s .elapsed)
      else match s.queue with
        | c :: q => some (failCmd { s with queue := q } c)
        | [] =>
          if closed s then some (endPhase s .shutdown)
          else if decide (s.now ≥ dl) = true then some (endPhase s .elapsed) else none := rfl

theorem tick_alive (F : Framing σ) (s : State σ) (ha : s.alive = true) :
    tick F s =
      match s.pos with
      | .noPhase => startPhase F s
      | .idle m => tickIdle F s m
      | .inflight m q tx dl => tickInflight F s m q tx dl
      | .waitEnabled => tickWait s
      | .failFor dl c => tickFail s dl c := by
  unfold tick; rw [ha]; rfl

theorem tick_eq_startPhase (F : Framing σ) (s : State σ) (ha : s.alive = true)
    (hp : s.pos = .noPhase) : tick F s = startPhase F s := by
  rw [tick_alive F s ha, hp]

theorem tick_eq_tickIdle (F : Framing σ) (s : State σ) (m : Nat) (ha : s.alive = true)
    (hp : s.pos = .idle m) : tick F s = tickIdle F s m := by
  rw [tick_alive F s ha, hp]

theorem tick_eq_tickInflight (F : Framing σ) (s : State σ) (m : Nat) (q : Req) (tx dl : Nat)
    (ha : s.alive = true) (hp : s.pos = .inflight m q tx dl) :
    tick F s = tickInflight F s m q tx dl := by
  rw [tick_alive F s ha, hp]

theorem tick_eq_tickWait (F : Framing σ) (s : State σ) (ha : s.alive = true)
    (hp : s.pos = .waitEnabled) : tick F s = tickWait s := by
  rw [tick_alive F s ha, hp]

theorem tick_eq_tickFail (F : Framing σ) (s : State σ) (dl : Nat) (b : Bool) (ha : s.alive = true)
    (hp : s.pos = .failFor dl b) : tick F s = tickFail s dl b := by
  rw [tick_alive F s ha, hp]

theorem sessionRecv_eq_none (F : Framing σ) (s : State σ) (m : Nat) :
    sessionRecv F s m = none ↔ s.queue = [] ∧ closed s = false := by
  unfold sessionRecv
  cases s.queue with
  | cons c q => simp
  | nil => cases closed s <;> simp

theorem recvReady_eq_false (s : State σ) :
    recvReady s = false ↔ s.queue = [] ∧ closed s = false := by
  unfold recvReady; cases s.queue <;> simp

theorem startPhase_eq_none (F : Framing σ) (s : State σ) :
    startPhase F s = none ↔ s.phases = [] := by
  unfold startPhase
  cases s.phases with
  | nil => simp
  | cons p ps => cases p <;> simp

theorem tickIdle_eq_none (F : Framing σ) (s : State σ) (m : Nat) :
    tickIdle F s m = none ↔
      (pollReader F s m).1 = .blocked ∧ (getMock s m).rx = [] ∧ s.queue = [] ∧ closed s = false := by
  rw [tickIdle_eq]
  split
  · rename_i hb
    have hs : sessionRecv F (pollReader F s m).2 m = none ↔ s.queue = [] ∧ closed s = false :=
      sessionRecv_eq_none F (pollReader F s m).2 m
    rw [← hs]
    cases sessionRecv F (pollReader F s m).2 m <;> simp [hb]
  · rename_i hb
    have hb' : (pollReader F s m).1 ≠ .blocked := hb
    simp only [hb', false_and, iff_false]
    split
    · rename_i hr
      split
      · simp
      · -- `recvReady` does not look at the coins
        obtain ⟨cs, h⟩ := flip_writes s
        have hs : sessionRecv F (flip s).2 m = none ↔ recvReady s = false := by
          rw [h, recvReady_eq_false]; exact sessionRecv_eq_none F _ m
        rw [hs, hr]; simp
    · simp

theorem tickInflight_eq_none (F : Framing σ) (s : State σ) (m : Nat) (q : Req) (tx dl : Nat) :
    tickInflight F s m q tx dl = none ↔
      (pollReader F s m).1 = .blocked ∧ (getMock s m).rx = [] ∧ s.now < dl := by
  rw [tickInflight_eq]
  split
  · rename_i hb
    by_cases he : s.now ≥ dl
    · simp [he, Nat.not_lt.mpr he]
    · simp [he, hb, Nat.lt_of_not_ge he]
  · rename_i hb
    have hb' : (pollReader F s m).1 ≠ .blocked := hb
    simp only [hb', false_and, iff_false]
    split
    · split <;> simp
    · simp

theorem tickWait_eq_none (s : State σ) :
    tickWait s = none ↔ s.enabled = false ∧ s.queue = [] ∧ closed s = false := by
  unfold tickWait
  cases s.enabled <;> cases s.queue <;> cases closed s <;> simp

theorem tickFail_eq_none (s : State σ) (dl : Nat) (b : Bool) :
    tickFail s dl b = none ↔ s.now < dl ∧ s.queue = [] ∧ closed s = false := by
  rw [tickFail_eq]
  by_cases hc : (decide (s.now ≥ dl) && !b) = true
  · have he : ¬ s.now < dl := by simp at hc; omega
    rw [if_pos hc]
    simp only [he, false_and, iff_false]
    split
    · split <;> simp
    · simp
  · rw [if_neg hc]
    cases s.queue with
    | cons c q => simp
    | nil =>
      cases closed s
      · by_cases he : s.now < dl
        · simp [he, Nat.not_le.mpr he]
        · simp [he, Nat.le_of_not_lt he]
      · simp

theorem tick_eq_none (F : Framing σ) (s : State σ) (ha : s.alive = true) :
    tick F s = none ↔
      match s.pos with
      | .noPhase => s.phases = []
      | .idle m => (pollReader F s m).1 = .blocked ∧ (getMock s m).rx = [] ∧ s.queue = []
          ∧ closed s = false
      | .inflight m _ _ dl => (pollReader F s m).1 = .blocked ∧ (getMock s m).rx = [] ∧ s.now < dl
      | .waitEnabled => s.enabled = false ∧ s.queue = [] ∧ closed s = false
      | .failFor dl _ => s.now < dl ∧ s.queue = [] ∧ closed s = false := by
  rw [tick_alive F s ha]
  cases s.pos with
  | noPhase => exact startPhase_eq_none F s
  | idle m => exact tickIdle_eq_none F s m
  | inflight m q tx dl => exact tickInflight_eq_none F s m q tx dl
  | waitEnabled => exact tickWait_eq_none s
  | failFor dl c => exact tickFail_eq_none s dl c

theorem settle_succ_none (F : Framing σ) (n : Nat) (s : State σ) (h : tick F s = none) :
    settle F (n + 1) s = if s.held = 0 then s else settle F n { s with held := 0 } := by
  rw [settle, h]

theorem settle_succ_some (F : Framing σ) (n : Nat) (s t : State σ) (h : tick F s = some t) :
    settle F (n + 1) s = settle F n t := by
  rw [settle, h]

/-- `settleFuel s` is `4 * … + 16`, a literal successor: `settled F s` unfolds to one step of
    `settle` by `rfl` -/
theorem settled_of_tick (F : Framing σ) (s t : State σ) (h : tick F s = some t) :
    settled F s = settle F (settleFuel s - 1) t :=
  settle_succ_some F (settleFuel s - 1) s t h

theorem nextTimer_inflight {s : State σ} {m : Nat} {q : Req} {tx dl : Nat} (ha : s.alive = true)
    (hp : s.pos = .inflight m q tx dl) : nextTimer s = some dl := by
  simp [nextTimer, ha, hp]

theorem moveClock_timer {s : State σ} {dl : Nat} (h : nextTimer s = some dl) (target : Nat) :
    moveClock s target = { s with now := max s.now (min dl target) } := by
  unfold moveClock; rw [h]

theorem advance_no_timer (F : Framing σ) (fuel target : Nat) (s : State σ)
    (h : nextTimer s = none) : advance F fuel target s = moveClock s target := by
  cases fuel with
  | zero => rfl
  | succ n => rw [advance, h]

theorem advance_succ_timer (F : Framing σ) (n target : Nat) (s : State σ) (dl : Nat)
    (h : nextTimer s = some dl) :
    advance F (n + 1) target s
      = if dl ≤ target then advance F n target (settled F (moveClock s dl))
        else moveClock s target := by
  rw [advance, h]

/-- `advanceFuel s` is `… + 2`, a literal successor: the step `A<ms>` unfolds to one step of `advance`
    by `rfl` -/
theorem stepState_advance_timer (F : Framing σ) (s : State σ) (ms dl : Nat)
    (h : nextTimer s = some dl) :
    stepState F s (.advance ms)
      = if dl ≤ s.now + ms then
          advance F (advanceFuel s - 1) (s.now + ms) (settled F (moveClock s dl))
        else moveClock s (s.now + ms) :=
  advance_succ_timer F (advanceFuel s - 1) (s.now + ms) s dl h

end

/- the request and the start states of the test vectors in Props/ -/
namespace Example

def rc (rid : String) (sty : Style) (timeout : Nat) : Req := ⟨rid, sty, 1, timeout, .readCoils 0 8⟩

/-- queue capacity 1, no timeout limit, MBAP -/
def s1 : State Mbap.PState := State.init mbap 1 0 ⟨0, 0, 0⟩ []

def s16 : State Mbap.PState := State.init mbap 16 0 ⟨0, 0, 0⟩ []

end Example

end Rodbus.Client
