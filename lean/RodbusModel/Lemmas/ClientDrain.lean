import RodbusModel.Lemmas.ClientInv
import RodbusModel.Lemmas.ClientSettle
/-
  C10 `drain_completes`: from every state in which the task exists, finitely many clock movements
  and `fail_requests_for(1 ms)` phases leave nothing queued and nothing in flight (`drains_all`), by
  induction on the number of pending requests (`pend`), then on the measure `mu` of
  Lemmas/ClientSettle; a state whose tasks have not run to the end (`settleFuel` need not suffice)
  is pushed on by one more script step (`kick`).  With it, what the clock does to the request in
  flight (C12): before the deadline only the clock moves; at the deadline the request times out if
  its reader has nothing to deliver (`Quiet`), which holds after every script.
-/
namespace Rodbus.Client

section
variable {σ : Type}

/-- the outer task exists and is between phases with no phase scheduled -/
def Idle (s : State σ) : Prop := s.alive = true ∧ s.pos = .noPhase ∧ s.phases = []

theorem settle_idle (F : Framing σ) (fuel : Nat) (v : State σ) (h : Idle v) :
    Idle (settle F fuel v) ∧ (settle F fuel v).queue = v.queue
      ∧ (settle F fuel v).now = v.now := by
  induction fuel generalizing v with
  | zero => exact ⟨h, rfl, rfl⟩
  | succ n ih =>
    rw [settle_succ_none F n v ((tick_eq_none F v h.1).mpr (by rw [h.2.1]; exact h.2.2))]
    split
    · exact ⟨h, rfl, rfl⟩
    · exact ih { v with held := 0 } h

theorem idle_endPhase (s : State σ) (k : EndKind) (ha : s.alive = true) (hph : s.phases = []) :
    Idle (endPhase s k) := ⟨ha, rfl, hph⟩

/-- the result of running the tasks inside `fail_requests_for` before its deadline -/
def FailPost (u r : State σ) (dl : Nat) : Prop :=
  r.alive = true ∧ r.phases = [] ∧ r.now = u.now
    ∧ ((r.pos = .failFor dl false ∧ r.queue = [])
        ∨ (r.pos = .noPhase ∧ (r.queue = [] ∨ r.queue.length < u.queue.length)))

theorem tickFail_early (u : State σ) (dl : Nat) (hnow : u.now < dl) :
    tickFail u dl false =
      match u.queue with
      | c :: q => some (failCmd { u with queue := q } c)
      | [] => if closed u then some (endPhase u .shutdown) else none := by
  rw [tickFail_eq, decide_eq_false (Nat.not_le.mpr hnow)]
  rfl

/-- with an empty queue the phase goes on until the channel is closed; the tasks awaiting futures
    release their clones, which may close it -/
theorem settle_fail_nil (F : Framing σ) (fuel : Nat) (u : State σ) (dl : Nat) (ha : u.alive = true)
    (hph : u.phases = []) (hp : u.pos = .failFor dl false) (hnow : u.now < dl)
    (hq : u.queue = []) : FailPost u (settle F fuel u) dl := by
  induction fuel generalizing u with
  | zero => exact ⟨ha, hph, rfl, .inl ⟨hp, hq⟩⟩
  | succ n ih =>
    have ht := (tick_eq_tickFail F u dl false ha hp).trans (tickFail_early u dl hnow)
    rw [hq] at ht
    by_cases hc : closed u = true
    · rw [if_pos hc] at ht
      rw [settle_succ_some F n u _ ht]
      obtain ⟨⟨a1, a2, a3⟩, a4, a5⟩ := settle_idle F n _ (idle_endPhase u .shutdown ha hph)
      exact ⟨a1, a3, a5, .inr ⟨a2, .inl (a4.trans hq)⟩⟩
    · rw [if_neg hc] at ht
      rw [settle_succ_none F n u ht]
      split
      · exact ⟨ha, hph, rfl, .inl ⟨hp, hq⟩⟩
      · exact ih { u with held := 0 } ha hph hp hnow hq

theorem settle_fail (F : Framing σ) (fuel : Nat) (u : State σ) (dl : Nat) (ha : u.alive = true)
    (hph : u.phases = []) (hp : u.pos = .failFor dl false) (hnow : u.now < dl)
    (hf : u.queue.length + 3 ≤ fuel) : FailPost u (settle F fuel u) dl := by
  induction fuel generalizing u with
  | zero => omega
  | succ n ih =>
    cases hq : u.queue with
    | nil => exact settle_fail_nil F (n + 1) u dl ha hph hp hnow hq
    | cons c q =>
      have ht := (tick_eq_tickFail F u dl false ha hp).trans (tickFail_early u dl hnow)
      rw [hq] at ht
      rw [settle_succ_some F n u _ ht]
      have hlen : q.length + 3 ≤ n := by rw [hq] at hf; simp at hf; omega
      have cont : ∀ v : State σ, v.alive = true → v.phases = [] → v.pos = .failFor dl false →
          v.now = u.now → v.queue = q → FailPost u (settle F n v) dl := by
        intro v va vph vp vnow vq
        obtain ⟨b1, b2, b3, b4⟩ := ih v va vph vp (by omega) (by rw [vq]; exact hlen)
        refine ⟨b1, b2, by rw [b3, vnow], ?_⟩
        rcases b4 with b4 | ⟨b4, b5⟩
        · exact Or.inl b4
        · refine Or.inr ⟨b4, ?_⟩
          rcases b5 with b5 | b5
          · exact Or.inl b5
          · right; rw [vq] at b5; rw [hq]; simp; omega
      have stop : ∀ (w : State σ) (k : EndKind), w.alive = true → w.phases = [] → w.now = u.now →
          w.queue = q → FailPost u (settle F n (endPhase w k)) dl := by
        intro w k wa wph wnow wq
        have hi := idle_endPhase w k wa wph
        obtain ⟨⟨a1, a2, a3⟩, a4, a5⟩ := settle_idle F n _ hi
        refine ⟨a1, a3, by rw [a5]; exact wnow, Or.inr ⟨a2, Or.inr ?_⟩⟩
        rw [a4, hq]
        show w.queue.length < (c :: q).length
        rw [wq]; simp
      cases c with
      | req r => exact cont _ ha hph hp rfl rfl
      | shutdown => exact stop { u with queue := q } .shutdown ha hph rfl rfl
      | enable => exact cont _ ha hph hp rfl rfl
      | disable => exact stop _ .disabled ha hph rfl rfl
      | setDecode d =>
        by_cases he : u.enabled = true
        · have : failCmd { u with queue := q } (.setDecode d)
              = { u with queue := q, decode := d } := by simp [failCmd, applySetting, he]
          rw [this]; exact cont _ ha hph hp rfl rfl
        · have : failCmd { u with queue := q } (.setDecode d)
              = endPhase { u with queue := q, decode := d } .disabled := by
            simp [failCmd, applySetting, he]
          rw [this]; exact stop _ .disabled ha hph rfl rfl

theorem step_failFor (F : Framing σ) (s : State σ) (h : Idle s) (ms : Nat) (hms : 0 < ms) :
    FailPost s (stepState F s (.failFor ms)) (s.now + ms) := by
  obtain ⟨ha, hp, hph⟩ := h
  have h1 : applyStep s (.failFor ms) = { s with phases := [.failFor ms] } := by
    simp [applyStep, addPhase, ha, hph]
  show FailPost s (settled F (applyStep s (.failFor ms))) (s.now + ms)
  rw [h1]
  unfold settled
  generalize hfu : settleFuel ({ s with phases := [.failFor ms] } : State σ) = fuel
  have hfuel : s.queue.length + 4 ≤ fuel := by
    rw [← hfu]; simp [settleFuel]; omega
  cases fuel with
  | zero => omega
  | succ n =>
    rw [settle_succ_some F n _ _ (tick_eq_startPhase F { s with phases := [.failFor ms] } ha hp)]
    exact settle_fail F n { s with phases := [], pos := .failFor (s.now + ms) false } (s.now + ms)
      ha rfl rfl (by show s.now < s.now + ms; omega) (by show s.queue.length + 3 ≤ n; omega)

theorem settle_fail_expired (F : Framing σ) (fuel : Nat) (w : State σ) (dl : Nat) (b : Bool)
    (ha : w.alive = true) (hph : w.phases = []) (hp : w.pos = .failFor dl b) (hnow : dl ≤ w.now)
    (hq : w.queue = []) (hf : 3 ≤ fuel) :
    Idle (settle F fuel w) ∧ (settle F fuel w).queue = [] := by
  have fin : ∀ (n : Nat) (v : State σ) (k : EndKind), v.alive = true → v.phases = [] → v.queue = [] →
      Idle (settle F n (endPhase v k)) ∧ (settle F n (endPhase v k)).queue = [] := by
    intro n v k va vph vq
    obtain ⟨a1, a4, _⟩ := settle_idle F n _ (idle_endPhase v k va vph)
    exact ⟨a1, a4.trans vq⟩
  have committed : ∀ (n : Nat) (v : State σ), v.alive = true → v.phases = [] →
      v.pos = .failFor dl true → dl ≤ v.now → v.queue = [] → 1 ≤ n →
      Idle (settle F n v) ∧ (settle F n v).queue = [] := by
    intro n v va vph vp vnow vq hn
    cases n with
    | zero => omega
    | succ n' =>
      have ht : tick F v = some (endPhase v (if closed v then .shutdown else .elapsed)) := by
        rw [tick_eq_tickFail F v dl true va vp, tickFail_eq, decide_eq_true vnow, vq]
        cases closed v <;> rfl
      rw [settle_succ_some F n' v _ ht]
      exact fin n' v _ va vph vq
  cases fuel with
  | zero => omega
  | succ n =>
    cases b with
    | true => exact committed (n + 1) w ha hph hp hnow hq (by omega)
    | false =>
      -- if `recv` is ready too, the coin of the `select!` decides between the timer and `recv`
      have ht := (tick_eq_tickFail F w dl false ha hp).trans (tickFail_eq w dl false)
      rw [decide_eq_true hnow, if_pos rfl] at ht
      obtain ⟨cs, hfl⟩ := flip_writes w
      rw [hfl] at ht
      cases hr : recvReady w
      · rw [hr, if_neg Bool.false_ne_true] at ht
        rw [settle_succ_some F n w _ ht]
        exact fin n w _ ha hph hq
      · rw [hr, if_pos rfl] at ht
        cases hc : (flip w).1
        · rw [hc, if_neg Bool.false_ne_true] at ht
          rw [settle_succ_some F n w _ ht]
          exact committed n _ ha hph rfl hnow hq (by omega)
        · rw [hc, if_pos rfl] at ht
          rw [settle_succ_some F n w _ ht]
          exact fin n _ _ ha hph hq

/-- the step `A<ms>` after the step `F<ms>`: the phase, if it is still running, elapses -/
theorem step_advance_after (F : Framing σ) (u r : State σ) (ms : Nat)
    (h : FailPost u r (u.now + ms)) :
    Idle (stepState F r (.advance ms))
      ∧ ((stepState F r (.advance ms)).queue = []
          ∨ (stepState F r (.advance ms)).queue.length < u.queue.length) := by
  obtain ⟨ha, hph, hnow, hcase⟩ := h
  have rest : ∀ (fuel target : Nat) (v : State σ), Idle v →
      Idle (advance F fuel target v) ∧ (advance F fuel target v).queue = v.queue := by
    intro fuel target v hi
    rw [advance_no_timer F _ _ _ (by simp [nextTimer, hi.1, hi.2.1])]
    exact ⟨hi, rfl⟩
  show Idle (advance F (advanceFuel r) (r.now + ms) r)
    ∧ ((advance F (advanceFuel r) (r.now + ms) r).queue = []
        ∨ (advance F (advanceFuel r) (r.now + ms) r).queue.length < u.queue.length)
  rcases hcase with ⟨hp, hq⟩ | ⟨hp, hq⟩
  · have hfu : advanceFuel r = 2 := by simp [advanceFuel, hq, hph]
    have hnt : nextTimer r = some (u.now + ms) := by simp [nextTimer, ha, hp]
    rw [hfu, advance_succ_timer F 1 _ r _ hnt, if_pos (by omega)]
    obtain ⟨hi, hq'⟩ : Idle (settled F (moveClock r (u.now + ms)))
        ∧ (settled F (moveClock r (u.now + ms))).queue = [] := by
      refine settle_fail_expired F _ (moveClock r (u.now + ms)) (u.now + ms) false ha hph hp ?_ hq
        (by simp [settleFuel])
      rw [moveClock_timer hnt]
      show u.now + ms ≤ max r.now (min (u.now + ms) (u.now + ms))
      omega
    obtain ⟨h1, h2⟩ := rest 1 (r.now + ms) _ hi
    exact ⟨h1, .inl (h2.trans hq')⟩
  · obtain ⟨h1, h2⟩ := rest (advanceFuel r) (r.now + ms) r ⟨ha, hp, hph⟩
    exact ⟨h1, by rw [h2]; exact hq⟩

/-- the clock reaches the deadline of the request in flight while the reader has nothing to
    deliver: the timer fires with the clock at `dl`, the request finishes with a timeout there, and
    the tasks and the clock run on -/
theorem stepState_at_deadline (F : Framing σ) (s : State σ) (m : Nat) (q : Req) (tx dl ms : Nat)
    (ha : s.alive = true) (hp : s.pos = .inflight m q tx dl)
    (hq : (pollReader F s m).1 = .blocked) (hnow : s.now ≤ dl) (hms : dl ≤ s.now + ms) :
    ∃ n k, stepState F s (.advance ms)
      = advance F n (s.now + ms)
          (settle F k (finish { (pollReader F s m).2 with now := dl } m q .timeout)) := by
  have hnt := nextTimer_inflight ha hp
  have hmc : moveClock s dl = { s with now := dl } := by
    rw [moveClock_timer hnt, Nat.min_self, Nat.max_eq_right hnow]
  have hpr : pollReader F { s with now := dl } m
      = (.blocked, { (pollReader F s m).2 with now := dl }) := by
    rw [pollReader_frame F s { s with now := dl } m rfl rfl rfl, hq]
    obtain ⟨st, rb, mk, hw⟩ := pollReader_writes F s m
    rw [hw]
  have htick : tick F { s with now := dl }
      = some (finish { (pollReader F s m).2 with now := dl } m q .timeout) := by
    rw [tick_eq_tickInflight F { s with now := dl } m q tx dl ha hp, tickInflight_eq, hpr]
    exact if_pos (decide_eq_true (Nat.le_refl dl))
  refine ⟨advanceFuel s - 1, settleFuel s - 1, ?_⟩
  rw [stepState_advance_timer F s ms dl hnt, if_pos hms, hmc]
  exact congrArg _ (settled_of_tick F _ _ htick)

theorem advance_before_deadline (F : Framing σ) (s : State σ) (m : Nat) (r : Req) (tx dl ms : Nat)
    (ha : s.alive = true) (hp : s.pos = .inflight m r tx dl) (hms : s.now + ms < dl) :
    stepState F s (.advance ms) = { s with now := s.now + ms } := by
  have hnt := nextTimer_inflight ha hp
  rw [stepState_advance_timer F s ms dl hnt, if_neg (Nat.not_le.mpr hms)]
  rw [moveClock_timer hnt, show max s.now (min dl (s.now + ms)) = s.now + ms by omega]

theorem advance_reaches_deadline (F : Framing σ) (s : State σ) (m : Nat) (r : Req)
    (tx dl ms : Nat) (ha : s.alive = true) (hp : s.pos = .inflight m r tx dl)
    (hq : (pollReader F s m).1 = .blocked) (hnow : s.now ≤ dl) (hms : dl ≤ s.now + ms) :
    LogEntry.done r.rid r.style .timeout dl ∈ (stepState F s (.advance ms)).log := by
  obtain ⟨n, k, h⟩ := stepState_at_deadline F s m r tx dl ms ha hp hq hnow hms
  obtain ⟨new, hl⟩ := advance_taskInv (log_ext_taskInv F _) n (s.now + ms) _
    (settle_taskInv (log_ext_taskInv F _) k _ ⟨[], rfl⟩)
  rw [h, hl]
  refine List.mem_append_right _ ?_
  obtain ⟨fin, -, h⟩ := finish_log ({ (pollReader F s m).2 with now := dl } : State σ) m r .timeout
  rw [h]
  exact List.mem_append_right _ List.mem_cons_self

/-- the reader of the request in flight has nothing to deliver -/
def Quiet (F : Framing σ) (s : State σ) : Prop :=
  s.alive = true → ∀ m r tx dl, s.pos = .inflight m r tx dl → (pollReader F s m).1 = .blocked

theorem blocked_quiet (F : Framing σ) (s : State σ) (h : tick F s = none) : Quiet F s := by
  intro ha m r tx dl hp
  have := (tick_eq_none F s ha).mp h
  rw [hp] at this
  exact this.1

theorem moveClock_quiet (F : Framing σ) (s : State σ) (target : Nat) (h : Quiet F s) :
    Quiet F (moveClock s target) := by
  intro ha m r tx dl hp
  rw [pollReader_congr F s (moveClock s target) m rfl rfl rfl]
  exact h ha m r tx dl hp

theorem advance_quiet (F : Framing σ) (hS : ∀ x : State σ, Quiet F (settled F x)) (fuel target : Nat)
    (s : State σ) (h : Quiet F s) : Quiet F (advance F fuel target s) := by
  induction fuel generalizing s with
  | zero => exact moveClock_quiet F s target h
  | succ n ih =>
    unfold advance
    split
    · split
      · exact ih _ (hS _)
      · exact moveClock_quiet F s target h
    · exact moveClock_quiet F s target h

theorem stepState_quiet (F : Framing σ) (hS : ∀ x : State σ, Quiet F (settled F x)) (s : State σ)
    (st : Step) (h : Quiet F s) : Quiet F (stepState F s st) := by
  unfold stepState
  split
  · exact advance_quiet F hS _ _ s h
  · exact hS _

theorem runState_quiet (F : Framing σ) (hS : ∀ x : State σ, Quiet F (settled F x)) (s : State σ)
    (steps : List Step) (h : Quiet F s) : Quiet F (runState F s steps) := by
  induction steps generalizing s with
  | nil => exact h
  | cons st rest ih => exact ih _ (stepState_quiet F hS s st h)

/-- after every script the reader of the request in flight has nothing to deliver -/
theorem reachable_quiet (F : Framing σ) (w : σ → Nat) (hw : ParseMeasure F w)
    (hb : ∀ st, w st ≤ 1) (cap maxTo : Nat) (d : Decode) (coins : List Bool) (steps : List Step) :
    Quiet F (runState F (State.init F cap maxTo d coins) steps) := by
  -- `hb` is the bound `Refines.w_le` gives; `settled_is_blocked` needs only 11
  apply runState_quiet F fun x => blocked_quiet F _
    (settled_is_blocked F w hw (fun st => Nat.le_trans (hb st) (by decide)) x).1
  intro _ m r tx dl hp
  simp [State.init] at hp

def drainSteps : Nat → List Step
  | 0 => []
  | n + 1 => .failFor 1 :: .advance 1 :: drainSteps n

theorem drain_idle (F : Framing σ) (n : Nat) (s : State σ) (h : Idle s) (hn : s.queue.length ≤ n) :
    Idle (runState F s (drainSteps n)) ∧ (runState F s (drainSteps n)).queue = [] := by
  induction n generalizing s with
  | zero =>
    refine ⟨h, ?_⟩
    have : s.queue.length = 0 := by omega
    exact List.eq_nil_of_length_eq_zero this
  | succ n ih =>
    have h1 := step_failFor F s h 1 (by omega)
    obtain ⟨hi, hq⟩ := step_advance_after F s _ 1 h1
    simp only [drainSteps, runState, List.foldl_cons]
    apply ih _ hi
    rcases hq with hq | hq
    · rw [hq]; simp
    · omega

theorem drainSteps_kind (n : Nat) : ∀ st ∈ drainSteps n, st = .failFor 1 ∨ st = .advance 1 := by
  induction n with
  | zero => intro st h; cases h
  | succ n ih =>
    intro st h
    simp only [drainSteps, List.mem_cons] at h
    rcases h with h | h | h
    · exact Or.inl h
    · exact Or.inr h
    · exact ih st h

def DrainStep (st : Step) : Prop := (∃ n, st = .advance n) ∨ st = .failFor 1

theorem drainSteps_drainStep (n : Nat) : ∀ st ∈ drainSteps n, DrainStep st := fun st h =>
  (drainSteps_kind n st h).elim .inr fun h => .inl ⟨1, h⟩

theorem applyStep_drain_accepted (s : State σ) (st : Step) (h : DrainStep st) :
    (applyStep s st).accepted = s.accepted := by
  rcases h with ⟨n, rfl⟩ | rfl
  · rfl
  · exact congrArg Core.accepted (core_addPhase s _)

theorem stepState_drain_accepted (F : Framing σ) (s : State σ) (st : Step) (h : DrainStep st) :
    (stepState F s st).accepted = s.accepted :=
  stepState_taskInv (accepted_taskInv F (· = s.accepted)) s st rfl (applyStep_drain_accepted s st h)

theorem drain_accepted (F : Framing σ) (n : Nat) (s : State σ) :
    (runState F s (drainSteps n)).accepted = s.accepted :=
  runState_inv (accepted_taskInv F (· = s.accepted)) DrainStep
    (fun t st hst h => (applyStep_drain_accepted t st hst).trans h) s (drainSteps n)
    (drainSteps_drainStep n) rfl

end

def pend (c : Core) : Nat := (reqsOf c.queue).length + (inflightIds c.pos).length

theorem pend_afterCore (c : Core) (m : Nat) (res : Res) :
    pend (afterCore c m res) = (reqsOf c.queue).length ∧ (afterCore c m res).alive = c.alive :=
  ⟨by simp only [pend, afterCore_parts, List.length_nil]; rfl, by simp only [afterCore_parts]⟩

theorem teff_pend (c c' : Core) (e : TEff c c') : pend c' ≤ pend c ∧ c'.alive = c.alive := by
  cases e with
  | quiet | time t ht1 ht2 => exact ⟨Nat.le_refl _, rfl⟩
  | commit dl ha hp | startSession m ha hp | startWait ha hp | startFail ms ha hp =>
    simp [pend, hp, inflightIds]
  | phaseEnd k ha hi hn => simp [pend, inflightIds]
  | phaseEndCmd k x q ha hi hn hq hx => simp [pend, hq, inflightIds, reqsOf_cons_other x q hx]
  | setting x q ha hi hn hq hx => simp [pend, hq, reqsOf_cons_other x q hx]
  | noConn r q ha hp hq => simp [pend, hq, reqsOf]
  | send m r q bytes logged ha hp hq => simp [pend, hp, hq, reqsOf, inflightIds]
  | dequeueFail m r q res ha hp hq hres =>
    refine ⟨?_, (pend_afterCore _ m res).2⟩
    rw [(pend_afterCore _ m res).1]; simp only [pend, hq, reqsOf, List.length_cons]; omega
  | finish m r tx dl res ha hp ht h3 h4 =>
    exact ⟨by rw [(pend_afterCore _ m res).1]; exact Nat.le_add_right _ _,
      (pend_afterCore _ m res).2⟩

section
variable {σ : Type}

theorem pend_taskInv (F : Framing σ) (c0 : Core) :
    TaskInv F (fun s => pend (core s) ≤ pend c0 ∧ (core s).alive = c0.alive) :=
  TaskInv.of_core F (P := fun c => pend c ≤ pend c0 ∧ c.alive = c0.alive) fun c c' h e =>
    ⟨Nat.le_trans (teff_pend c c' e).1 h.1, (teff_pend c c' e).2.trans h.2⟩

theorem blocked_cases (F : Framing σ) (s : State σ) (ha : s.alive = true) (h : tick F s = none) :
    Idle s ∨ (s.queue = [] ∧ inflightIds s.pos = [])
      ∨ ∃ m q tx dl, s.pos = .inflight m q tx dl ∧ (pollReader F s m).1 = .blocked ∧ s.now < dl := by
  have h' := (tick_eq_none F s ha).mp h
  cases hp : s.pos with
  | noPhase => rw [hp] at h'; exact .inl ⟨ha, hp, h'⟩
  | idle m => rw [hp] at h'; exact .inr (.inl ⟨h'.2.2.1, rfl⟩)
  | inflight m q tx dl => rw [hp] at h'; exact .inr (.inr ⟨m, q, tx, dl, rfl, h'.1, h'.2.2⟩)
  | waitEnabled => rw [hp] at h'; exact .inr (.inl ⟨h'.2.1, rfl⟩)
  | failFor dl c => rw [hp] at h'; exact .inr (.inl ⟨h'.2.1, rfl⟩)

theorem stepState_blocked (F : Framing σ) (hS : ∀ s, Blocked F (settled F s))
    (s : State σ) (st : Step) (hst : ∀ ms, st ≠ .advance ms) : Blocked F (stepState F s st) := by
  cases st with
  | advance ms => exact absurd rfl (hst ms)
  | _ => exact hS _

/-- some continuation of clock movements and `fail_requests_for` phases leaves nothing queued and
    nothing in flight, without anything new having been accepted -/
def Drains (F : Framing σ) (s : State σ) : Prop :=
  ∃ more : List Step, (∀ st ∈ more, DrainStep st)
    ∧ queueIds (runState F s more).queue = [] ∧ inflightIds (runState F s more).pos = []
    ∧ (runState F s more).accepted = s.accepted

theorem drains_step (F : Framing σ) (s : State σ) (st : Step) (hst : DrainStep st)
    (h : Drains F (stepState F s st)) : Drains F s := by
  obtain ⟨more, h1, h2, h3, h4⟩ := h
  refine ⟨st :: more, ?_, h2, h3, ?_⟩
  · intro x hx
    rcases List.mem_cons.mp hx with hx | hx
    · rw [hx]; exact hst
    · exact h1 x hx
  · show (runState F (stepState F s st) more).accepted = s.accepted
    rw [h4]
    exact stepState_drain_accepted F s st hst

theorem drains_idle (F : Framing σ) (s : State σ) (h : Idle s) : Drains F s := by
  obtain ⟨⟨_, hp, _⟩, hq⟩ := drain_idle F s.queue.length s h (Nat.le_refl _)
  refine ⟨drainSteps s.queue.length, drainSteps_drainStep _, ?_, ?_, drain_accepted F _ s⟩
  · rw [hq]; rfl
  · rw [hp]; rfl

theorem inflight_advance (F : Framing σ) (s : State σ) (m : Nat) (q : Req) (tx dl : Nat)
    (ha : s.alive = true) (hp : s.pos = .inflight m q tx dl)
    (hb : (pollReader F s m).1 = .blocked) (hnow : s.now < dl) :
    pend (core (stepState F s (.advance (dl - s.now)))) < pend (core s)
      ∧ (stepState F s (.advance (dl - s.now))).alive = true := by
  obtain ⟨n, k, h⟩ := stepState_at_deadline F s m q tx dl (dl - s.now) ha hp hb (by omega) (by omega)
  obtain ⟨g1, g2⟩ := advance_taskInv (pend_taskInv F _) n (s.now + (dl - s.now)) _
    (settle_taskInv (pend_taskInv F _) k _ ⟨Nat.le_refl _, rfl⟩)
  rw [← h, core_finish] at g1 g2
  rw [(pend_afterCore _ m .timeout).1] at g1
  rw [(pend_afterCore _ m .timeout).2] at g2
  have hc : core (pollReader F s m).2 = core s := core_pollReader F s m
  have hps : pend (core s) = (reqsOf s.queue).length + 1 := by
    show (reqsOf s.queue).length + (inflightIds s.pos).length = _
    rw [hp]; rfl
  have hq : (pollReader F s m).2.queue = s.queue := congrArg Core.queue hc
  exact ⟨by rw [hps, ← hq]; exact Nat.lt_succ_of_le g1,
    g2.trans ((congrArg Core.alive hc).trans ha)⟩

theorem kick (F : Framing σ) (w : σ → Nat) (hw : ParseMeasure F w) (s : State σ)
    (ha : s.alive = true) :
    (stepState F s (.failFor 1)).alive = true
      ∧ pend (core (stepState F s (.failFor 1))) ≤ pend (core s)
      ∧ (Blocked F (stepState F s (.failFor 1)) ∨ mu w (stepState F s (.failFor 1)) < mu w s) := by
  have h1 : applyStep s (.failFor 1) = { s with phases := s.phases ++ [.failFor 1] } := by
    simp [applyStep, addPhase, ha]
  have hst : stepState F s (.failFor 1) = settled F { s with phases := s.phases ++ [.failFor 1] } := by
    show settled F (applyStep s (.failFor 1)) = _
    rw [h1]
  rw [hst]
  generalize hsa : ({ s with phases := s.phases ++ [.failFor 1] } : State σ) = sa
  have hc : core sa = core s := by rw [← hsa]; rfl
  have hmu : mu w sa = mu w s + 4 := by
    rw [← hsa]; simp only [mu, ctl, rho, List.length_append, List.length_cons, List.length_nil]; omega
  obtain ⟨g1, g2⟩ := settled_inv (pend_taskInv F (core sa)) sa ⟨Nat.le_refl _, rfl⟩
  rw [hc] at g1 g2
  refine ⟨?_, g1, ?_⟩
  · show (core (settled F sa)).alive = true
    rw [g2]; exact ha
  · have hfu : 16 ≤ settleFuel sa := by simp [settleFuel]
    rcases settle_progress F w hw (settleFuel sa) sa with h | h
    · exact Or.inl h
    · right
      show mu w (settle F (settleFuel sa) sa) < mu w s
      omega

theorem drains_all (F : Framing σ) (hF : Consuming F) (s : State σ) (ha : s.alive = true) :
    Drains F s := by
  obtain ⟨w, hw⟩ := hF
  have main : ∀ (r k : Nat) (s : State σ), s.alive = true → pend (core s) = r → mu w s = k →
      Drains F s := by
    intro r
    induction r using Nat.strongRecOn with
    | ind r ihr =>
      have blk : ∀ s : State σ, s.alive = true → pend (core s) = r → tick F s = none →
          Drains F s := by
        intro s ha hr hb
        rcases blocked_cases F s ha hb with h | h | ⟨m, q, tx, dl, hp, hn, hnow⟩
        · exact drains_idle F s h
        · exact ⟨[], fun _ h => absurd h List.not_mem_nil, congrArg queueIds h.1, h.2, rfl⟩
        · obtain ⟨h1, h2⟩ := inflight_advance F s m q tx dl ha hp hn hnow
          exact drains_step F s _ (Or.inl ⟨_, rfl⟩)
            (ihr _ (by omega) _ _ h2 rfl rfl)
      intro k
      induction k using Nat.strongRecOn with
      | ind k ihk =>
        intro s ha hr hk
        by_cases hb : tick F s = none
        · exact blk s ha hr hb
        · obtain ⟨a1, p1, h⟩ := kick F w hw s ha
          apply drains_step F s _ (Or.inr rfl)
          by_cases hlt : pend (core (stepState F s (.failFor 1))) < r
          · exact ihr _ hlt _ _ a1 rfl rfl
          · have heq : pend (core (stepState F s (.failFor 1))) = r := by omega
            rcases h with h | h
            · exact blk _ a1 heq h.1
            · exact ihk _ (by omega) _ a1 heq rfl
  exact main _ _ s ha rfl rfl

end

end Rodbus.Client
