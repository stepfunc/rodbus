import RodbusModel.Spec.Rtu
import RodbusModel.Lemmas.Crc
import RodbusModel.Lemmas.Reader
/-
  RTU against its whole-stream specification: the guards of the `ReadBuffer` accessors hold inside
  the parser, so each arm has a guard-free normal form; the parser is an instance of `Refines`
  (Lemmas/Reader); what a call can report and what an accepted frame looks like; the
  specification one frame at a time.
-/
namespace Rodbus.Rtu
open Rodbus.Crc

theorem getD_drop (l : Bytes) (n i : Nat) : (l.drop n).getD i 0 = l.getD (n + i) 0 := by
  simp [List.getD_eq_getElem?_getD, List.getElem?_drop]

theorem getD_append_left (a b : Bytes) (i : Nat) (h : i < a.length) :
    (a ++ b).getD i 0 = a.getD i 0 := by
  simp [List.getD_eq_getElem?_getD, List.getElem?_append_left h]

theorem getElem?_eq_some_getD (l : Bytes) (i : Nat) (h : i < l.length) :
    l[i]? = some (l.getD i 0) := by
  simp [List.getD_eq_getElem?_getD, List.getElem?_eq_getElem h]

theorem exists_cons_cons : ∀ {l : Bytes}, 2 ≤ l.length → ∃ a b t, l = a :: b :: t
  | a :: b :: t, _ => ⟨a, b, t, rfl⟩
  | [], h | [_], h => by simp at h

theorem span_split : ∀ (n : Nat) (l : Bytes), n + 3 ≤ l.length →
    l = l.take (n + 1) ++ [l.getD (n + 1) 0, l.getD (n + 2) 0] ++ l.drop (n + 3)
  | 0, _ :: _ :: _ :: _, _ => rfl
  | 0, [], h | 0, [_], h | 0, [_, _], h => by simp at h
  | _ + 1, [], h => by simp at h
  | n + 1, a :: t, h => congrArg (a :: ·) (span_split n t (by simpa using h))

theorem span_decomp (l : Bytes) (n : Nat) (h : l.length = n + 4) :
    ∃ dest pdu lo hi, l = dest :: pdu ++ [lo, hi] ∧ pdu.length = n + 1 := by
  cases l with
  | nil => simp at h
  | cons dest body =>
    have hb : body.length = n + 3 := by simpa using h
    have hs := span_split n body (by omega)
    rw [List.drop_of_length_le (by omega), List.append_nil] at hs
    exact ⟨dest, body.take (n + 1), _, _, by rw [List.cons_append, ← hs],
      by rw [List.length_take]; omega⟩

theorem consume_consume (rb : RB) (n m : Nat) : (rb.consume n).consume m = rb.consume (n + m) := by
  simp [RB.consume, List.drop_drop, Nat.add_assoc]

theorem readU8_of_pos (rb : RB) (h : 0 < rb.data.length) :
    readU8 rb = some (rb.data.getD 0 0, rb.consume 1) := by
  unfold readU8
  cases hd : rb.data with
  | nil => simp [hd] at h
  | cons b t => simp

theorem peekAt_of_lt (rb : RB) (idx : Nat) (h : idx < rb.data.length) :
    peekAt rb idx = some (rb.data.getD idx 0) := by
  unfold peekAt RB.len
  rw [if_neg (by omega), getElem?_eq_some_getD _ _ h]

theorem readN_of_le (rb : RB) (n : Nat) (h : n ≤ rb.data.length) :
    readN rb n = some (rb.data.take n, rb.consume n) := by
  unfold readN RB.len
  rw [if_neg (by omega)]

theorem readU16le_of_le (rb : RB) (h : 2 ≤ rb.data.length) :
    readU16le rb = some (be16 (rb.data.getD 1 0) (rb.data.getD 0 0), rb.consume 2) := by
  unfold readU16le
  have h1 : 0 < (rb.consume 1).data.length := by
    rw [RB.consume_data, List.length_drop]; omega
  rw [readU8_of_pos rb (by omega)]
  simp only [readU8_of_pos _ h1, consume_consume, RB.consume_data, getD_drop]

theorem parseFullBody_eq (dest len : Nat) (rb : RB) :
    parseFullBody dest len rb =
      if len + 1 > 253 then (.err (.frameLengthTooBig (len + 1) 253), .fullBody dest len, rb)
      else if rb.data.length < len + 3 then (.none, .fullBody dest len, rb)
      else if be16 (rb.data.getD (len + 2) 0) (rb.data.getD (len + 1) 0)
            ≠ crc (dest :: rb.data.take (len + 1)) then
         (.err (.crcValidationFailure
            (be16 (rb.data.getD (len + 2) 0) (rb.data.getD (len + 1) 0))
            (crc (dest :: rb.data.take (len + 1)))), .fullBody dest len, rb.consume (len + 3))
       else (.frame ⟨none, dest, rb.data.take (len + 1)⟩, .start, rb.consume (len + 3)) := by
  unfold parseFullBody MAX_ADU RB.len
  rw [Nat.add_comm 1 len]
  by_cases h : len + 1 > 253
  · rw [if_pos h, if_pos h]
  · rw [if_neg h, if_neg h]
    by_cases h2 : rb.data.length < len + 3
    · rw [if_pos h2, if_pos h2]
    · have h3 : 2 ≤ (rb.consume (len + 1)).data.length := by
        rw [RB.consume_data, List.length_drop]; omega
      rw [if_neg h2, if_neg h2, readN_of_le rb _ (by omega)]
      simp only [readU16le_of_le _ h3, consume_consume, RB.consume_data, getD_drop]

/-- the three outcomes of the `ReadFullBody` arm, the buffered bytes cut where the arm cuts them -/
theorem parseFullBody_cases (dest len : Nat) (rb : RB) :
    (len + 1 > 253 ∧ parseFullBody dest len rb =
        (.err (.frameLengthTooBig (len + 1) 253), .fullBody dest len, rb))
    ∨ (len + 1 ≤ 253 ∧ rb.data.length < len + 3 ∧
        parseFullBody dest len rb = (.none, .fullBody dest len, rb))
    ∨ ∃ pdu lo hi rest, len + 1 ≤ 253 ∧ pdu.length = len + 1 ∧ rb.data = pdu ++ [lo, hi] ++ rest
        ∧ parseFullBody dest len rb =
          if be16 hi lo ≠ crc (dest :: pdu) then
            (.err (.crcValidationFailure (be16 hi lo) (crc (dest :: pdu))), .fullBody dest len,
              ⟨rb.begin + (len + 3), rest⟩)
          else (.frame ⟨none, dest, pdu⟩, .start, ⟨rb.begin + (len + 3), rest⟩) := by
  rw [parseFullBody_eq]
  by_cases h : len + 1 > 253
  · exact .inl ⟨h, if_pos h⟩
  · rw [if_neg h]
    by_cases h2 : rb.data.length < len + 3
    · exact .inr (.inl ⟨by omega, h2, if_pos h2⟩)
    · exact .inr (.inr ⟨_, _, _, _, by omega, by rw [List.length_take]; omega,
        span_split len rb.data (by omega), if_neg h2⟩)

theorem parseToOffset_eq (dest off : Nat) (rb : RB) :
    parseToOffset dest off rb =
      if rb.data.length < 1 + off then (.none, .toOffset dest off, rb)
      else parseFullBody dest (off + rb.data.getD off 0) rb := by
  unfold parseToOffset RB.len
  split
  · rfl
  · rw [peekAt_of_lt rb (1 + off - 1) (by omega), Nat.add_sub_cancel_left]

theorem parseStart_eq (d : Dir) (rb : RB) :
    parseStart d rb =
      if rb.data.length < 2 then (.none, .start, rb)
      else match lengthMode d (rb.data.getD 1 0) with
       | .fixed n => parseFullBody (rb.data.getD 0 0) n (rb.consume 1)
       | .offset k => parseToOffset (rb.data.getD 0 0) k (rb.consume 1)
       | .unknown => (.err (.unknownFunctionCode (rb.data.getD 1 0)), .start, rb.consume 1) := by
  unfold parseStart RB.len
  split
  · rfl
  · have h1 : 0 < (rb.consume 1).data.length := by
      rw [RB.consume_data, List.length_drop]; omega
    rw [readU8_of_pos rb (by omega)]
    simp only [peekAt_of_lt _ 0 h1, RB.consume_data, getD_drop]
    cases lengthMode d (rb.data.getD 1 0) <;> rfl

/-- the same with address and function code in view (cf. `specFrames_cons`) -/
theorem parseStart_cons (d : Dir) (b dest fc : Nat) (t : Bytes) :
    parseStart d ⟨b, dest :: fc :: t⟩ =
      match lengthMode d fc with
      | .fixed n => parseFullBody dest n ⟨b + 1, fc :: t⟩
      | .offset k => parseToOffset dest k ⟨b + 1, fc :: t⟩
      | .unknown => (.err (.unknownFunctionCode fc), .start, ⟨b + 1, fc :: t⟩) :=
  (parseStart_eq d _).trans (if_neg (by simp))

/-- the specification of a stream that starts at the function code of a frame whose address
    `dest` was already consumed and whose PDU has `1 + len` bytes -/
def specBody (d : Dir) (dest len : Nat) (s : Bytes) : List Event :=
  if len + 1 > 253 then [.err (.frameLengthTooBig (len + 1) 253)]
  else if s.length < len + 3 then []
  else
    let pdu := s.take (len + 1)
    let received := be16 (s.getD (len + 2) 0) (s.getD (len + 1) 0)
    let expected := crc (dest :: pdu)
    if received ≠ expected then [.err (.crcValidationFailure received expected)]
    else .frame ⟨none, dest, pdu⟩ :: specFrames d (s.drop (len + 3))

/-- what the rest of the stream denotes when the parser is in state `st` -/
def specFrom (d : Dir) : PState → Bytes → List Event
  | .start, s => specFrames d s
  | .toOffset dest off, s =>
    match s[off]? with
    | none => []
    | some extra => specBody d dest (off + extra) s
  | .fullBody dest len, s => specBody d dest len s

theorem specFrames_len (d : Dir) (dest : Nat) (body : Bytes) (n : Nat)
    (h : frameLen? d (dest :: body) = .len n) :
    specFrames d (dest :: body) = specBody d dest n body := by
  rw [specFrames, h]
  simp only [specBody, List.length_cons, List.headD_cons, List.drop_succ_cons, List.drop_zero]
  by_cases h1 : n + 1 > 253
  · rw [if_pos h1, if_pos h1]
  · rw [if_neg h1, if_neg h1]
    by_cases h2 : body.length < n + 3
    · rw [dif_pos (by omega), if_pos h2]
    · rw [dif_neg (by omega), if_neg h2]

theorem frameLen?_short (d : Dir) : ∀ s : Bytes, s.length < 2 → frameLen? d s = .more
  | [], _ | [_], _ => rfl
  | _ :: _ :: _, h => by simp at h; omega

theorem specFrames_short (d : Dir) (s : Bytes) (h : s.length < 2) : specFrames d s = [] := by
  rw [specFrames, frameLen?_short d s h]

theorem specFrames_cons (d : Dir) (dest fc : Nat) (t : Bytes) :
    specFrames d (dest :: fc :: t) =
      match lengthMode d fc with
      | .fixed n => specFrom d (.fullBody dest n) (fc :: t)
      | .offset k => specFrom d (.toOffset dest k) (fc :: t)
      | .unknown => [.err (.unknownFunctionCode fc)] := by
  cases hm : lengthMode d fc with
  | fixed n => exact specFrames_len d dest _ n (by simp only [frameLen?, hm])
  | offset k =>
    simp only [specFrom]
    cases hk : (fc :: t)[k]? with
    | none =>
      have : frameLen? d (dest :: fc :: t) = .more := by simp only [frameLen?, hm, hk]
      rw [specFrames, this]
    | some extra => exact specFrames_len d dest _ _ (by simp only [frameLen?, hm, hk])
  | unknown =>
    have : frameLen? d (dest :: fc :: t) = .bad fc := by simp only [frameLen?, hm]
    rw [specFrames, this]

theorem specBody_span (d : Dir) (dest n : Nat) (pdu : Bytes) (lo hi : Nat) (rest : Bytes)
    (hl : pdu.length = n + 1) (hn : n + 1 ≤ 253) :
    specBody d dest n (pdu ++ [lo, hi] ++ rest) =
      if be16 hi lo ≠ crc (dest :: pdu) then
        [.err (.crcValidationFailure (be16 hi lo) (crc (dest :: pdu)))]
      else .frame ⟨none, dest, pdu⟩ :: specFrames d rest := by
  have g1 : (pdu ++ [lo, hi] ++ rest).getD (n + 1) 0 = lo := by
    simp [List.getD_eq_getElem?_getD, hl]
  have g2 : (pdu ++ [lo, hi] ++ rest).getD (n + 2) 0 = hi := by
    simp [List.getD_eq_getElem?_getD, List.getElem?_append_right, hl]
  have g3 : (pdu ++ [lo, hi] ++ rest).drop (n + 3) = rest := List.drop_left' (by simp; omega)
  have g4 : (pdu ++ [lo, hi] ++ rest).take (n + 1) = pdu := by
    rw [List.append_assoc]; exact List.take_left' hl
  simp only [specBody]
  rw [if_neg (by omega), if_neg (by simp; omega), g1, g2, g3, g4]

theorem lengthMode_mem (d : Dir) (fc : Nat) :
    lengthMode d fc ∈ [.unknown, .fixed 1, .fixed 4, .offset 1, .offset 5] := by
  unfold lengthMode
  cases d <;> dsimp only <;> (repeat' split) <;> decide

theorem lengthMode_offset_le (d : Dir) (fc k : Nat) (h : lengthMode d fc = .offset k) : k ≤ 5 := by
  have := lengthMode_mem d fc
  rw [h] at this
  simp at this
  omega

theorem lengthMode_fixed_le (d : Dir) (fc n : Nat) (h : lengthMode d fc = .fixed n) : n ≤ 4 := by
  have := lengthMode_mem d fc
  rw [h] at this
  simp at this
  omega

theorem lengthMode_request (fc : Nat) :
    lengthMode .request fc =
      if fc = 1 ∨ fc = 2 ∨ fc = 3 ∨ fc = 4 ∨ fc = 5 ∨ fc = 6 then .fixed 4
      else if fc = 15 ∨ fc = 16 then .offset 5 else .unknown := by
  simp [lengthMode]

theorem lengthMode_response (fc : Nat) :
    lengthMode .response fc =
      if fc &&& 0x80 ≠ 0 then .fixed 1
      else if fc = 1 ∨ fc = 2 ∨ fc = 3 ∨ fc = 4 then .offset 1
      else if fc = 5 ∨ fc = 6 ∨ fc = 15 ∨ fc = 16 then .fixed 4 else .unknown := by
  simp [lengthMode]

def need : PState → Nat
  | .start => 2
  | .toOffset _ off => 1 + off
  | .fullBody _ len => len + 3

/-- the states the parser stores between calls: an offset comes from the table of `length_mode`
    (at most 5), a length has passed the check against `MAX_ADU` -/
def StOk : PState → Prop
  | .start => True
  | .toOffset _ off => off ≤ 5
  | .fullBody _ len => len + 1 ≤ 253

theorem parseFullBody_sim (d : Dir) (dest len : Nat) (rb : RB) (fut : Bytes) :
    Sim (parse d) (specFrom d) StOk need (fun _ => 0) (.fullBody dest len) rb fut
      (parseFullBody dest len rb) := by
  rcases parseFullBody_cases dest len rb with
    ⟨h, e⟩ | ⟨h, h2, e⟩ | ⟨pdu, lo, hi, rest, h, hl, hd, e⟩
  · rw [e]
    exact ⟨by rw [specFrom, specBody, if_pos h], nofun, nofun, rfl, Nat.le_refl _⟩
  · rw [e]
    exact .wait h2
  · have hs := specBody_span d dest len pdu lo hi (rest ++ fut) hl h
    rw [← List.append_assoc, ← hd] at hs
    have hlen : rb.data.length = len + 3 + rest.length := by
      rw [hd]; simp only [List.length_append, List.length_cons, List.length_nil]; omega
    have hend : rb.begin + (len + 3) + rest.length = rb.begin + rb.data.length := by omega
    have hlt : rest.length < rb.data.length := by omega
    rw [e]
    split
    · rw [if_pos ‹_›] at hs
      exact ⟨hs, nofun, nofun, hend, Nat.le_of_lt hlt⟩
    · rw [if_neg ‹_›] at hs
      exact ⟨hs, fun _ => trivial, hend, hlt⟩

theorem parseToOffset_sim (d : Dir) (dest off : Nat) (rb : RB) (fut : Bytes) :
    Sim (parse d) (specFrom d) StOk need (fun _ => 0) (.toOffset dest off) rb fut
      (parseToOffset dest off rb) := by
  rw [parseToOffset_eq]
  split
  · exact .wait ‹_›
  · have hs : specFrom d (.toOffset dest off) (rb.data ++ fut)
        = specFrom d (.fullBody dest (off + rb.data.getD off 0)) (rb.data ++ fut) := by
      have : (rb.data ++ fut)[off]? = some (rb.data.getD off 0) := by
        rw [List.getElem?_append_left (by omega), getElem?_eq_some_getD _ _ (by omega)]
      simp only [specFrom, this]
    have hsim := parseFullBody_sim d dest (off + rb.data.getD off 0) rb fut
    by_cases hbig : off + rb.data.getD off 0 + 1 > 253
    · -- a length beyond a frame is refused: that state is not stored
      rw [parseFullBody_eq, if_pos hbig] at hsim ⊢
      exact { hsim with spec_eq := hs.trans hsim.spec_eq }
    · refine hsim.hop hs (fun _ => Nat.le_of_not_lt hbig) rfl (Nat.le_refl _) fun more => ?_
      -- the byte at the offset, once there, is read again whatever follows
      show parseToOffset dest off _ = parseFullBody dest _ _
      rw [parseToOffset_eq, if_neg (by simp only [List.length_append]; omega),
        getD_append_left _ _ _ (by omega)]

theorem parseStart_sim (d : Dir) (rb : RB) (fut : Bytes) :
    Sim (parse d) (specFrom d) StOk need (fun _ => 0) .start rb fut (parseStart d rb) := by
  by_cases h : rb.data.length < 2
  · rw [parseStart_eq, if_pos h]
    exact .wait h
  · obtain ⟨b, data⟩ := rb
    obtain ⟨dest, fc, t, rfl⟩ := exists_cons_cons (l := data) (Nat.le_of_not_lt h)
    have hsp : specFrom d .start (dest :: fc :: t ++ fut) = _ :=
      specFrames_cons d dest fc (t ++ fut)
    -- with more bytes the same function code selects the same arm
    have hgo : ∀ more, parse d .start ⟨b, dest :: fc :: t ++ more⟩ = _ :=
      fun more => parseStart_cons d b dest fc (t ++ more)
    have hb : b + 1 + (fc :: t).length = b + (dest :: fc :: t).length := by
      simp only [List.length_cons]; omega
    rw [parseStart_cons]
    cases hm : lengthMode d fc with
    | fixed n =>
      rw [hm] at hsp hgo
      exact (parseFullBody_sim d dest n ⟨b + 1, fc :: t⟩ fut).hop hsp
        (fun _ => Nat.succ_le_succ (Nat.le_trans (lengthMode_fixed_le d fc n hm) (by decide)))
        hb (Nat.le_succ _) hgo
    | offset k =>
      rw [hm] at hsp hgo
      exact (parseToOffset_sim d dest k ⟨b + 1, fc :: t⟩ fut).hop hsp
        (fun _ => lengthMode_offset_le d fc k hm) hb (Nat.le_succ _) hgo
    | unknown =>
      rw [hm] at hsp
      exact ⟨hsp, nofun, nofun, hb, Nat.le_succ _⟩

def Inv (rb : RB) : Prop := rb.begin + rb.data.length ≤ CAP

theorem refines (d : Dir) : Refines (parse d) (specFrom d) StOk need (fun _ => 0) where
  sim := fun st rb fut => by
    cases st with
    | start => exact parseStart_sim d rb fut
    | toOffset dest off => exact parseToOffset_sim d dest off rb fut
    | fullBody dest len => exact parseFullBody_sim d dest len rb fut
  blocked := fun st data hst hb => by
    cases st with
    | start => exact specFrames_short d data hb
    | toOffset dest off =>
      have : data[off]? = none := List.getElem?_eq_none (by simp only [need] at hb; omega)
      simp only [specFrom, this]
    | fullBody dest len =>
      have hst : len + 1 ≤ 253 := hst
      have hb : data.length < len + 3 := hb
      rw [specFrom, specBody, if_neg (by omega), if_pos hb]
  need_le := fun st hst => by
    cases st <;> simp only [need, StOk, CAP] at * <;> omega
  w_le := fun _ => Nat.zero_le _

/-- The errors a parser call can report (`parse_err`): the guards of the `ReadBuffer` accessors
    never fire.  The length in `frameLengthTooBig` is left free; where the parser reports it, it
    is above 253 (`parseFullBody_eq`). -/
def FramingErr (e : FrameErr) : Prop :=
  (∃ fc, e = .unknownFunctionCode fc) ∨ (∃ n, e = .frameLengthTooBig n 253)
    ∨ ∃ r x, r ≠ x ∧ e = .crcValidationFailure r x

theorem FramingErr.ne_internal {e : FrameErr} (h : FramingErr e) : e ≠ .internalShortRead := by
  rcases h with ⟨_, rfl⟩ | ⟨_, rfl⟩ | ⟨_, _, _, rfl⟩ <;> nofun

theorem FramingErr.ne_spurious {e : FrameErr} (h : FramingErr e) : e ≠ .spuriousEof := by
  rcases h with ⟨_, rfl⟩ | ⟨_, rfl⟩ | ⟨_, _, _, rfl⟩ <;> nofun

theorem u16le_be16 {hi lo : Nat} (h1 : hi < 256) (h2 : lo < 256) :
    u16le (be16 hi lo) = [lo, hi] := by
  show (u16be (be16 hi lo)).reverse = [lo, hi]
  rw [u16be_be16 h1 h2]; rfl

/-- `data` starts with the PDU of `f` (`len + 1` bytes) followed by the CRC of address and PDU,
    low byte first, followed by `rest` -/
def Accepted (dest len : Nat) (data : Bytes) (f : Frame) (rest : Bytes) : Prop :=
  f.tx = none ∧ f.dest = dest ∧ f.pdu.length = len + 1 ∧
    ∃ lo hi, data = f.pdu ++ [lo, hi] ++ rest ∧ be16 hi lo = crc (dest :: f.pdu)

theorem Accepted.wf {dest len : Nat} {data : Bytes} {f : Frame} {rest : Bytes}
    (h : Accepted dest len data f rest) (hw : Bytes.WF data) :
    data = f.pdu ++ u16le (crc (f.dest :: f.pdu)) ++ rest := by
  obtain ⟨_, hd, _, lo, hi, h1, h2⟩ := h
  have hw' := hw
  rw [h1] at hw'
  have hlo : lo < 256 := hw' lo (by simp)
  have hhi : hi < 256 := hw' hi (by simp)
  rw [hd, ← h2, u16le_be16 hhi hlo]
  exact h1

/-- what the `ReadFullBody` arm returns, by outcome -/
theorem parseFullBody_result {dest len : Nat} {rb : RB} {r : PResult} {st' : PState} {rb' : RB}
    (h : parseFullBody dest len rb = (r, st', rb')) :
    match r with
    | .err e => FramingErr e
    | .none => rb' = rb
    | .frame f => Accepted dest len rb.data f rb'.data ∧ len + 1 ≤ 253 ∧ st' = .start := by
  rcases parseFullBody_cases dest len rb with
    ⟨_, e⟩ | ⟨_, _, e⟩ | ⟨pdu, lo, hi, rest, hn, hl, hd, e⟩
  · rw [e] at h; cases h
    exact .inr (.inl ⟨_, rfl⟩)
  · rw [e] at h; cases h
    rfl
  · rw [e] at h
    split at h
    · cases h
      exact .inr (.inr ⟨_, _, ‹_›, rfl⟩)
    · cases h
      exact ⟨⟨rfl, rfl, hl, lo, hi, hd, Decidable.of_not_not ‹_›⟩, hn, rfl⟩

/-- the same for the `ReadToOffsetForLength` arm: the length is read at PDU byte `off` -/
theorem parseToOffset_result {dest off : Nat} {rb : RB} {r : PResult} {st' : PState} {rb' : RB}
    (h : parseToOffset dest off rb = (r, st', rb')) :
    match r with
    | .err e => FramingErr e
    | .none => rb' = rb
    | .frame f => ∃ extra, f.pdu[off]? = some extra ∧
        Accepted dest (off + extra) rb.data f rb'.data ∧ off + extra + 1 ≤ 253 ∧ st' = .start := by
  rw [parseToOffset_eq] at h
  split at h
  · cases h; rfl
  · have hr := parseFullBody_result h
    cases r with
    | err e => exact hr
    | none => exact hr
    | frame f =>
      obtain ⟨ha, hl⟩ := hr
      refine ⟨rb.data.getD off 0, ?_, ha, hl⟩
      obtain ⟨_, _, hlen, lo, hi, hd, _⟩ := ha
      have : rb.data[off]? = f.pdu[off]? := by
        rw [hd, List.append_assoc, List.getElem?_append_left (by omega)]
      rw [← this, getElem?_eq_some_getD _ _ (by omega)]

/-- the same for the `Start` arm, which consumes the address before it calls the next arm -/
theorem parseStart_result {d : Dir} {rb : RB} {r : PResult} {st' : PState} {rb' : RB}
    (h : parseStart d rb = (r, st', rb')) :
    match r with
    | .err e => FramingErr e
    | .none => rb' = rb ∨ 2 ≤ rb.data.length ∧ rb' = rb.consume 1
    | .frame f => ∃ dest body n, rb.data = dest :: body ∧ frameLen? d rb.data = .len n
        ∧ Accepted dest n body f rb'.data ∧ n + 1 ≤ 253 ∧ st' = .start := by
  by_cases h1 : rb.data.length < 2
  · rw [parseStart_eq, if_pos h1] at h; cases h
    exact .inl rfl
  · have h2 := Nat.le_of_not_lt h1
    obtain ⟨b, data⟩ := rb
    obtain ⟨dest, fc, t, rfl⟩ := exists_cons_cons (l := data) h2
    rw [parseStart_cons] at h
    cases hm : lengthMode d fc with
    | unknown =>
      rw [hm] at h; cases h
      exact .inl ⟨_, rfl⟩
    | fixed n =>
      rw [hm] at h
      have hr := parseFullBody_result h
      cases r with
      | err e => exact hr
      | none => exact .inr ⟨h2, hr⟩
      | frame f => exact ⟨dest, _, n, rfl, by simp only [frameLen?, hm], hr⟩
    | offset k =>
      rw [hm] at h
      have hr := parseToOffset_result h
      cases r with
      | err e => exact hr
      | none => exact .inr ⟨h2, hr⟩
      | frame f =>
        obtain ⟨extra, he, ha, hl⟩ := hr
        refine ⟨dest, _, k + extra, rfl, ?_, ha, hl⟩
        obtain ⟨_, _, hlen, lo, hi, hd, _⟩ := ha
        have hd : fc :: t = f.pdu ++ [lo, hi] ++ rb'.data := hd
        have : (fc :: t)[k]? = some extra := by
          rw [hd, List.append_assoc, List.getElem?_append_left (by omega)]
          exact he
        simp only [frameLen?, hm, this]

theorem parse_err (d : Dir) (st : PState) (rb : RB) (e : FrameErr) (st' : PState) (rb' : RB)
    (h : parse d st rb = (.err e, st', rb')) : FramingErr e := by
  cases st with
  | start => exact parseStart_result h
  | toOffset dest off => exact parseToOffset_result h
  | fullBody dest len => exact parseFullBody_result h

/-- when the parser answers `Ok(None)` it has at most consumed the address, together with a peek
    at the function code -/
theorem parse_none_nonempty {d : Dir} {st : PState} {rb : RB} {st' : PState} {rb' : RB}
    (hp : parse d st rb = (.none, st', rb')) (hne : rb.data ≠ []) : rb'.data ≠ [] := by
  cases st with
  | fullBody dest len => rw [show rb' = rb from parseFullBody_result hp]; exact hne
  | toOffset dest off => rw [show rb' = rb from parseToOffset_result hp]; exact hne
  | start =>
    rcases (parseStart_result hp : _ ∨ _) with rfl | ⟨h2, rfl⟩
    · exact hne
    · exact List.ne_nil_of_length_pos (by simp only [RB.consume_data, List.length_drop]; omega)

theorem frameLen?_cons_of_len (d : Dir) (s : Bytes) (n : Nat) (h : frameLen? d s = .len n) :
    ∃ dest fc t, s = dest :: fc :: t :=
  exists_cons_cons (Nat.le_of_not_lt fun hs => by rw [frameLen?_short d s hs] at h; cases h)

theorem frameLen?_append (d : Dir) (a b : Bytes) (n : Nat) (h : frameLen? d a = .len n) :
    frameLen? d (a ++ b) = .len n := by
  obtain ⟨dest, fc, t, rfl⟩ := frameLen?_cons_of_len d a n h
  simp only [frameLen?, List.cons_append] at h ⊢
  cases hm : lengthMode d fc with
  | fixed m => rw [hm] at h; exact h
  | unknown => rw [hm] at h; cases h
  | offset k =>
    rw [hm] at h
    simp only at h ⊢
    cases hk : (fc :: t)[k]? with
    | none => rw [hk] at h; cases h
    | some extra =>
      rw [hk] at h
      rw [← List.cons_append, List.getElem?_append_left (List.getElem?_eq_some_iff.1 hk).1, hk]
      exact h

theorem frameLen?_prefix (d : Dir) (a b : Bytes) (n : Nat) (h : frameLen? d (a ++ b) = .len n)
    (hl : n + 2 ≤ a.length) : frameLen? d a = .len n := by
  obtain ⟨dest, fc, t, rfl⟩ := exists_cons_cons (l := a) (by omega)
  simp only [frameLen?, List.cons_append] at h ⊢
  cases hm : lengthMode d fc with
  | fixed m => rw [hm] at h; exact h
  | unknown => rw [hm] at h; cases h
  | offset k =>
    rw [hm] at h
    simp only at h ⊢
    cases hk : (fc :: (t ++ b))[k]? with
    | none => rw [hk] at h; cases h
    | some extra =>
      rw [hk] at h
      simp only [Delim.len.injEq] at h
      rw [← List.cons_append, List.getElem?_append_left (by simp at hl ⊢; omega)] at hk
      rw [hk]
      exact congrArg Delim.len h

/-- the length rule reads the function code (position 1) and, in an `offset k` mode, position
    `k + 1`; two streams that agree there are delimited alike -/
theorem frameLen?_congr (d : Dir) (s s' : Bytes) (h1 : s'[1]? = s[1]?)
    (hk : ∀ k, lengthMode d (s.getD 1 0) = .offset k → s'[k + 1]? = s[k + 1]?) :
    frameLen? d s' = frameLen? d s := by
  have hl : s'.length ≤ 1 ↔ s.length ≤ 1 := by
    rw [← List.getElem?_eq_none_iff, ← List.getElem?_eq_none_iff, h1]
  by_cases h : s.length < 2
  · rw [frameLen?_short d s h, frameLen?_short d s' (by omega)]
  · obtain ⟨dest, fc, rest, rfl⟩ := exists_cons_cons (l := s) (by omega)
    obtain ⟨dest', fc', rest', rfl⟩ := exists_cons_cons (l := s') (by omega)
    obtain rfl : fc' = fc := by simpa using h1
    simp only [frameLen?]
    cases hm : lengthMode d fc' with
    | unknown => rfl
    | fixed n => rfl
    | offset k =>
      have := hk k hm
      simp only [List.getElem?_cons_succ] at this
      simp only [this]

/-- Induction along the frames of a stream: the specification yields nothing, or a framing error
    and nothing else, or the stream starts with a CRC-correct frame of the delimited length and
    the specification goes on behind it. -/
theorem specFrames_induct (d : Dir) {motive : Bytes → Prop}
    (nil : ∀ s, specFrames d s = [] → motive s)
    (err : ∀ s e, FramingErr e → specFrames d s = [.err e] → motive s)
    (frame : ∀ dest pdu lo hi rest n, frameLen? d (dest :: pdu ++ [lo, hi] ++ rest) = .len n →
      pdu.length = n + 1 → be16 hi lo = crc (dest :: pdu) →
      specFrames d (dest :: pdu ++ [lo, hi] ++ rest)
        = .frame ⟨none, dest, pdu⟩ :: specFrames d rest →
      motive rest → motive (dest :: pdu ++ [lo, hi] ++ rest)) (s : Bytes) : motive s := by
  induction hlen : s.length using Nat.strongRecOn generalizing s with
  | _ len ih =>
  cases h : frameLen? d s with
  | more => exact nil s (by rw [specFrames, h])
  | bad fc => exact err s _ (Or.inl ⟨fc, rfl⟩) (by rw [specFrames, h])
  | len n =>
    obtain ⟨dest, fc, t, rfl⟩ := frameLen?_cons_of_len d s n h
    have hs := specFrames_len d dest _ n h
    by_cases h1 : n + 1 > 253
    · exact err _ _ (Or.inr (Or.inl ⟨n + 1, rfl⟩)) (by rw [hs, specBody, if_pos h1])
    · by_cases h2 : (fc :: t).length < n + 3
      · exact nil _ (by rw [hs, specBody, if_neg h1, if_pos h2])
      · have hsplit := span_split n (fc :: t) (by omega)
        have hpl : ((fc :: t).take (n + 1)).length = n + 1 := by
          rw [List.length_take]; omega
        rw [hsplit, specBody_span d dest n _ _ _ _ hpl (by omega)] at hs
        rw [hsplit] at h hlen ⊢
        split at hs
        · exact err _ _ (Or.inr (Or.inr ⟨_, _, ‹_›, rfl⟩)) hs
        · refine frame _ _ _ _ _ n h hpl (Decidable.of_not_not ‹_›) hs (ih _ ?_ _ rfl)
          rw [← hlen]
          simp only [List.length_cons, List.length_append]; omega

theorem specFrames_err_mem (d : Dir) (s : Bytes) (e : FrameErr)
    (he : Event.err e ∈ specFrames d s) : FramingErr e := by
  induction s using specFrames_induct d with
  | nil s h => rw [h] at he; cases he
  | err s e' hf h =>
    rw [h] at he; simp only [List.mem_singleton, Event.err.injEq] at he
    exact he ▸ hf
  | frame dest pdu lo hi rest n _ _ _ h ih =>
    rw [h] at he
    exact ih (by simpa using he)

theorem format_eq (dest : Nat) (pdu : Bytes) :
    format dest pdu = dest :: pdu ++ u16le (crc (dest :: pdu)) := rfl

theorem format_length (dest : Nat) (pdu : Bytes) : (format dest pdu).length = pdu.length + 3 := by
  simp [format, u16le]

/-- every frame event of a byte stream is carried by a span `format dest pdu` of the stream
    (address, PDU, CRC of both), and that span is exactly what the length rule delimits -/
theorem specFrames_frame_mem (d : Dir) (s : Bytes) (hw : Bytes.WF s) (f : Frame)
    (h : Event.frame f ∈ specFrames d s) :
    ∃ pre post, s = pre ++ format f.dest f.pdu ++ post ∧ f.tx = none
      ∧ frameSpan d (format f.dest f.pdu) = some (format f.dest f.pdu).length := by
  induction s using specFrames_induct d with
  | nil s hs => rw [hs] at h; cases h
  | err s e _ hs => rw [hs] at h; simp at h
  | frame dest pdu lo hi rest m hfl hpl hcrc hs ih =>
    have hlo : lo < 256 := hw lo (by simp)
    have hhi : hi < 256 := hw hi (by simp)
    have hrest : Bytes.WF rest := fun b hb => hw b (by simp [hb])
    have hfmt : dest :: pdu ++ [lo, hi] ++ rest = format dest pdu ++ rest := by
      rw [format_eq, ← hcrc, u16le_be16 hhi hlo]
    rw [hs] at h
    simp only [List.mem_cons, Event.frame.injEq] at h
    rw [hfmt] at hfl ⊢
    rcases h with h | h
    · subst h
      refine ⟨[], rest, rfl, rfl, ?_⟩
      have hl : (format dest pdu).length = m + 4 := by rw [format_length]; omega
      have := frameLen?_prefix d (format dest pdu) rest m hfl (by omega)
      simp only [frameSpan, this, hl]
    · obtain ⟨pre, post, hp, ht, hsp⟩ := ih hrest h
      exact ⟨format dest pdu ++ pre, post, by rw [hp]; simp, ht, hsp⟩

/-- the length rule of a PDU is the delimitation of a frame that carries it -/
theorem pduLenRule_eq (d : Dir) (dest : Nat) (pdu : Bytes) :
    pduLenRule d pdu = match frameLen? d (dest :: pdu) with
      | .len n => some (1 + n)
      | _ => none := by
  cases pdu with
  | nil => rfl
  | cons fc rest =>
    simp only [pduLenRule, frameLen?]
    cases lengthMode d fc with
    | unknown => rfl
    | fixed n => rfl
    | offset k => dsimp only; cases (fc :: rest)[k]? <;> simp [Nat.add_assoc]

/-- a well-formed PDU delimits exactly itself -/
theorem WellFormedPdu.frameLen {d : Dir} {pdu : Bytes} (h : WellFormedPdu d pdu) :
    ∃ n, pdu.length = n + 1 ∧ n + 1 ≤ 253 ∧ ∀ dest t, frameLen? d (dest :: pdu ++ t) = .len n := by
  obtain ⟨_, hl, hr⟩ := h
  rw [pduLenRule_eq d 0] at hr
  split at hr
  · rename_i n hn
    simp only [Option.some.injEq] at hr
    refine ⟨n, by omega, by omega, fun dest t => frameLen?_append d (dest :: pdu) t n ?_⟩
    rw [← hn]; cases pdu <;> rfl
  · cases hr

/-- the byte count a length mode reads lies inside a well-formed PDU -/
theorem WellFormedPdu.offset_lt {d : Dir} {pdu : Bytes} {k : Nat} (h : WellFormedPdu d pdu)
    (hm : lengthMode d (pdu.headD 0) = .offset k) : k < pdu.length := by
  obtain ⟨_, _, hr⟩ := h
  cases pdu with
  | nil => cases hr
  | cons fc body =>
    simp only [pduLenRule, List.headD_cons] at hr hm
    rw [hm] at hr
    refine Nat.lt_of_not_le fun hk => ?_
    simp only [List.getElem?_eq_none hk] at hr
    cases hr

theorem frameSpan_some {d : Dir} {s : Bytes} {m : Nat} (h : frameSpan d s = some m) :
    ∃ n, m = n + 4 ∧ frameLen? d s = .len n := by
  unfold frameSpan at h
  split at h
  · cases h
    exact ⟨_, rfl, ‹_›⟩
  · cases h

/-- conversely, a PDU whose emitted frame delimits exactly itself is well formed -/
theorem wellFormedPdu_of_span (d : Dir) (dest : Nat) (pdu : Bytes) (hw : Bytes.WF pdu)
    (hl : pdu.length ≤ 253)
    (h : frameSpan d (format dest pdu) = some (format dest pdu).length) : WellFormedPdu d pdu := by
  obtain ⟨n, hm, hn⟩ := frameSpan_some h
  rw [format_length] at hm
  refine ⟨hw, hl, ?_⟩
  rw [pduLenRule_eq d dest, frameLen?_prefix d (dest :: pdu) _ n hn (by simp; omega)]
  simp only [Option.some.injEq]; omega

theorem WellFormedPdu.span {d : Dir} {pdu : Bytes} (h : WellFormedPdu d pdu) (dest : Nat) :
    frameSpan d (format dest pdu) = some (format dest pdu).length := by
  obtain ⟨n, hl, _, hfl⟩ := h.frameLen
  have := hfl dest (u16le (crc (dest :: pdu)))
  rw [← format_eq] at this
  simp only [frameSpan, this, format_length]
  congr 1; omega

end Rodbus.Rtu
