import RodbusModel.Lemmas.ClientReader
/-
  A termination measure for the client task.  For a framing whose parser consumes or blocks
  (`ParseMeasure`, Lemmas/ClientReader), `mu` strictly decreases with every tick of the outer task
  (one case per constructor of `Tick`) and with every release of held clones.  So `settle` with fuel
  `n` reaches a state in which the task is blocked or has lowered `mu` by `n`; the fuel `settleFuel`
  of the model suffices when the weight of the parser state is small, and beyond the measure the
  fuel is irrelevant.
-/
namespace Rodbus.Client

section
variable {σ : Type}

theorem mocksSize_set (mocks : List Mock) (m : Nat) (k : Mock) (h : m < mocks.length) :
    mocksSize (mocks.set m k) + rxSize (mocks.getD m {}).rx = mocksSize mocks + rxSize k.rx := by
  induction mocks generalizing m with
  | nil => simp at h
  | cons a as ih =>
    cases m with
    | zero => simp [mocksSize]; omega
    | succ m' =>
      have := ih m' (by simpa using h)
      simp only [List.set_cons_succ, mocksSize, List.getD_cons_succ] at this ⊢
      omega

/-- also for a transport that does not exist: nothing is written and nothing was unread -/
theorem mocksSize_set_le (mocks : List Mock) (m : Nat) (k : Mock) :
    mocksSize (mocks.set m k) + rxSize (mocks.getD m {}).rx ≤ mocksSize mocks + rxSize k.rx := by
  by_cases h : m < mocks.length
  · exact Nat.le_of_eq (mocksSize_set mocks m k h)
  · have h := Nat.le_of_not_lt h
    rw [List.set_eq_of_length_le h, List.getD_eq_getElem?_getD, List.getElem?_eq_none h]
    exact Nat.le_add_right _ _

/-- reader part of the measure -/
def rho (w : σ → Nat) (s : State σ) : Nat :=
  2 * mocksSize s.mocks + (w s.pst + s.rb.data.length)

def posW : Pos → Nat
  | .noPhase => 0
  | .idle _ => 1
  | .inflight _ _ _ _ => 3
  | .waitEnabled => 1
  | .failFor _ false => 2
  | .failFor _ true => 1

def heldW (h : Nat) : Nat := if h = 0 then 0 else 1

/-- control part of the measure -/
def ctl (s : State σ) : Nat :=
  4 * s.queue.length + 4 * s.phases.length + posW s.pos + heldW s.held

/-- the termination measure of the task: every tick and every release of held clones lowers it -/
def mu (w : σ → Nat) (s : State σ) : Nat := ctl s + rho w s

variable {F : Framing σ} {w : σ → Nat} {s x t : State σ} {m : Nat}

/-- `readerPoll_measure` for the reader of the task, which does not touch the control part -/
theorem pollReader_mu (hw : ParseMeasure F w) (s : State σ) (m : Nat) :
    (pollReader F s m).2.pos = s.pos ∧ mu w (pollReader F s m).2 ≤ mu w s
      ∧ (∀ f, (pollReader F s m).1 = .frame f → mu w (pollReader F s m).2 < mu w s)
      ∧ ((pollReader F s m).1 = .blocked → (getMock s m).rx ≠ [] →
          mu w (pollReader F s m).2 < mu w s)
      ∧ (∀ res, (pollReader F s m).1 = .fail res → res.sessionEnd ≠ none) := by
  have a := readerPoll_measure F w hw (readerFuel (getMock s m).rx) s.pst s.rb (getMock s m).rx
  simp only [pollReader]
  generalize readerPoll F _ s.pst s.rb _ = p at a ⊢
  obtain ⟨r, st', rb', rx'⟩ := p
  obtain ⟨a1, a2, a3, a4⟩ := a
  have hs := mocksSize_set_le s.mocks m { getMock s m with rx := rx' }
  simp only [rdM, mu, ctl, rho, setMock, getMock] at a1 a2 a3 hs ⊢
  refine ⟨trivial, by omega, fun f hf => ?_, fun hb hne => ?_, a4⟩
  · have := a2 f hf; omega
  · have := a3 hb hne (Nat.succ_ne_zero _); omega

theorem heldW_le (h : Nat) : heldW h ≤ 1 := by unfold heldW; split <;> omega

theorem posW_pos {p : Pos} (h : p ≠ .noPhase) : 1 ≤ posW p := by
  cases p with
  | noPhase => exact absurd rfl h
  | failFor dl b => cases b <;> simp [posW]
  | _ => simp [posW]

theorem mu_endPhase (w : σ → Nat) (s : State σ) (k : EndKind) :
    mu w (endPhase s k) + posW s.pos = mu w s := by
  simp only [mu, ctl, rho, endPhase, emit, posW]; omega

theorem mu_complete (w : σ → Nat) (s : State σ) (r : Req) (res : Res) :
    mu w (complete s r res) ≤ mu w s + 1 := by
  have h1 := heldW_le (complete s r res).held
  simp only [mu, ctl, rho, complete, emit] at h1 ⊢; omega

/-- a finished request leaves the position `noPhase` or `idle` and at most one more clone held -/
theorem mu_finish (w : σ → Nat) (s : State σ) (m : Nat) (r : Req) (res : Res) :
    mu w (finish s m r res) + posW s.pos ≤ mu w s + 2 := by
  obtain ⟨fin, nto, pos, -, hpos, h⟩ := finish_frame s m r res
  have := heldW_le (if r.style = .future then s.held + 1 else s.held)
  rw [h]
  rcases hpos with rfl | rfl <;> simp only [mu, ctl, rho, posW] <;> omega

theorem mu_applySetting (w : σ → Nat) (s : State σ) (c : Cmd) :
    mu w (applySetting s c) = mu w s := by
  cases c <;> rfl

theorem mu_pop {c : Cmd} {q : List Cmd} (hq : x.queue = c :: q) :
    mu w ({ x with queue := q } : State σ) + 4 = mu w x := by
  simp only [mu, ctl, rho, hq, List.length_cons]; omega

theorem Pre.mu_le (hw : ParseMeasure F w) (hx : Pre F s x) : mu w x ≤ mu w s ∧ x.pos = s.pos := by
  cases hx with
  | unpolled hy => obtain ⟨cs, rfl⟩ := hy.writes; exact ⟨Nat.le_refl _, rfl⟩
  | @polled m _ _ hy =>
    obtain ⟨cs, rfl⟩ := hy.writes
    exact ⟨(pollReader_mu hw _ m).2.1, (pollReader_mu hw _ m).1⟩

theorem StartFail.mu_le (hw : ParseMeasure F w) {r : Req} {y : State σ} {res : Res}
    (h : StartFail F x m r y res) : mu w y ≤ mu w x ∧ y.pos = x.pos := by
  cases h with
  | encode e he => exact ⟨Nat.le_refl _, rfl⟩
  | discard pdu res st' rb' he hd =>
    have := (discardBuffered_measure F w hw _ _ _ _ _ _ hd).1
    exact ⟨by simp only [mu, ctl, rho]; omega, rfl⟩
  | write pdu st' rb' he hd hw' =>
    have := (discardBuffered_measure F w hw _ _ _ _ _ _ hd).1
    have := mocksSize_set_le x.mocks m { getMock x m with wErr := false }
    exact ⟨by simp only [mu, ctl, rho, getMock] at this ⊢; omega, rfl⟩

theorem Tick.mu_lt (hw : ParseMeasure F w) (h : Tick F s t) : mu w t < mu w s := by
  cases h with
  | startSession m ps hp hph =>
    have := hw.init
    simp only [mu, ctl, rho, hp, hph, posW, List.length_cons, RB.empty, List.length_nil]
    omega
  | startWait ps hp hph | startFail ms ps hp hph =>
    simp only [mu, ctl, rho, hp, hph, posW, List.length_cons]; omega
  | commit dl hp =>
    obtain ⟨cs, h⟩ := flip_writes s
    rw [h]
    simp only [mu, ctl, rho, hp, posW]; omega
  | reader m y ho hy hb hf =>
    -- the coin weighs nothing and the reader does not look at it
    obtain ⟨cs, rfl⟩ := hy.writes
    obtain ⟨_, _, p2, p3, p4⟩ := pollReader_mu hw { s with coins := cs } m
    rw [pollReader_congr F s { s with coins := cs } m rfl rfl rfl] at p2 p3 p4
    cases hr : (pollReader F s m).1 with
    | blocked => exact p3 hr (hb hr)
    | frame f => exact p2 f hr
    | fail res => exact absurd (hf res hr) (p4 res hr)
  | phaseEnd x k hx hn hi hk =>
    obtain ⟨h1, h2⟩ := hx.mu_le hw
    have := mu_endPhase w x k
    have := posW_pos hn
    rw [h2] at *; omega
  | phaseEndCmd x c q k hx hn hi hq hc hk =>
    obtain ⟨h1, h2⟩ := hx.mu_le hw
    have := mu_endPhase w (applySetting { x with queue := q } c) k
    have := mu_applySetting w { x with queue := q } c
    have := mu_pop (w := w) hq
    omega
  | setting x c q hx hn hi hq hc =>
    obtain ⟨h1, h2⟩ := hx.mu_le hw
    have := mu_applySetting w { x with queue := q } c
    have := mu_pop (w := w) hq
    omega
  | noConn r q hp hq =>
    have := mu_complete w { s with queue := q } r .noConn
    have := mu_pop (w := w) hq
    omega
  | request m x r q t hp hx hq hst =>
    obtain ⟨h1, h2⟩ := hx.mu_le hw
    have hpop := mu_pop (w := w) hq
    rw [hp] at h2
    cases hst with
    | fail y res hy =>
      obtain ⟨h3, h4⟩ := hy.mu_le hw
      have := mu_finish w y m r res
      rw [h4] at this
      simp only [h2, posW] at this
      omega
    | sent pdu st' rb' he hd hw' =>
      have hd' : w st' + rb'.data.length ≤ w x.pst + x.rb.data.length :=
        (discardBuffered_measure F w hw _ _ _ _ _ _ hd).1
      refine Nat.lt_of_lt_of_le ?_ h1
      simp only [mu, ctl, rho, hq, h2, posW, List.length_cons]
      omega
  | finish m q tx dl x res hp hx hf =>
    obtain ⟨h1, h2⟩ := hx.mu_le hw
    have := mu_finish w x m q res
    rw [h2, hp] at this; simp only [posW] at this
    omega

theorem tick_mu (F : Framing σ) (w : σ → Nat) (hw : ParseMeasure F w) (s t : State σ)
    (h : tick F s = some t) : mu w t < mu w s :=
  (tick_cases h).2.mu_lt hw

end

section
variable {σ : Type}

/-- the outer task is blocked and no completed future still holds a clone: `settle` stops here -/
def Blocked (F : Framing σ) (s : State σ) : Prop := tick F s = none ∧ s.held = 0

theorem settle_blocked (F : Framing σ) (n : Nat) (s : State σ) (h : Blocked F s) :
    settle F n s = s := by
  cases n with
  | zero => rfl
  | succ k => rw [settle_succ_none F k s h.1, if_pos h.2]

theorem mu_release (w : σ → Nat) (s : State σ) (h : s.held ≠ 0) :
    mu w ({ s with held := 0 } : State σ) + 1 = mu w s := by
  simp only [mu, ctl, rho, heldW, h, if_false, if_true]; omega

theorem settle_progress (F : Framing σ) (w : σ → Nat) (hw : ParseMeasure F w) :
    ∀ (n : Nat) (s : State σ), Blocked F (settle F n s) ∨ mu w (settle F n s) + n ≤ mu w s := by
  intro n
  induction n with
  | zero => intro s; right; simp [settle]
  | succ n ih =>
    intro s
    cases ht : tick F s with
    | none =>
      rw [settle_succ_none F n s ht]
      by_cases hh : s.held = 0
      · rw [if_pos hh]; exact Or.inl ⟨ht, hh⟩
      · rw [if_neg hh]
        have := mu_release w s hh
        rcases ih { s with held := 0 } with h | h
        · exact Or.inl h
        · right; omega
    | some t =>
      rw [settle_succ_some F n s t ht]
      have := tick_mu F w hw s t ht
      rcases ih t with h | h
      · exact Or.inl h
      · right; omega

theorem settle_blocked_of_fuel (F : Framing σ) (w : σ → Nat) (hw : ParseMeasure F w) (n : Nat)
    (s : State σ) (h : mu w s < n) : Blocked F (settle F n s) := by
  rcases settle_progress F w hw n s with hb | hm
  · exact hb
  · omega

/-- `settleFuel` exceeds the termination measure when the parser-state weight is at most 11 (the
    slack of the constant 16 in `settleFuel` over `posW ≤ 3`, `heldW ≤ 1`) -/
theorem mu_lt_settleFuel (w : σ → Nat) (hb : ∀ st, w st ≤ 11) (s : State σ) :
    mu w s < settleFuel s := by
  have h1 : posW s.pos ≤ 3 := by
    cases s.pos <;> simp only [posW] <;> try omega
    rename_i dl c; cases c <;> simp
  have h2 := heldW_le s.held
  have h3 := hb s.pst
  simp only [mu, ctl, rho, settleFuel]
  omega

/-- the tasks run to the end: for a framing with a measure of weight at most 11 (`mu_lt_settleFuel`)
    `settled` reaches a blocked state -/
theorem settled_is_blocked (F : Framing σ) (w : σ → Nat) (hw : ParseMeasure F w)
    (hb : ∀ st, w st ≤ 11) (s : State σ) : Blocked F (settled F s) :=
  settle_blocked_of_fuel F w hw _ s (mu_lt_settleFuel w hb s)

theorem settle_fuel_irrelevant (F : Framing σ) (w : σ → Nat) (hw : ParseMeasure F w) (n n' : Nat)
    (s : State σ) (h : mu w s < n) (h' : mu w s < n') : settle F n s = settle F n' s := by
  induction n generalizing n' s with
  | zero => omega
  | succ k ih =>
    cases n' with
    | zero => omega
    | succ k' =>
      cases ht : tick F s with
      | none =>
        rw [settle_succ_none F k s ht, settle_succ_none F k' s ht]
        by_cases hh : s.held = 0
        · rw [if_pos hh, if_pos hh]
        · rw [if_neg hh, if_neg hh]
          have := mu_release w s hh
          exact ih k' _ (by omega) (by omega)
      | some t =>
        rw [settle_succ_some F k s t ht, settle_succ_some F k' s t ht]
        have := tick_mu F w hw s t ht
        exact ih k' t (by omega) (by omega)

theorem settled_of_tick_fuel (F : Framing σ) (w : σ → Nat) (hw : ParseMeasure F w)
    (hb : ∀ st, w st ≤ 11) (s t : State σ) (h : tick F s = some t) (n : Nat) (hn : mu w t < n) :
    settled F s = settle F n t := by
  have := tick_mu F w hw s t h
  have := mu_lt_settleFuel w hb s
  exact (settle_succ_some F (settleFuel s - 1) s t h).trans
    (settle_fuel_irrelevant F w hw _ n t (by omega) hn)

theorem mbap_settled_blocked (s : State Mbap.PState) : Blocked mbap (settled mbap s) :=
  settled_is_blocked mbap mbapW mbap_measure mbapW_le_eleven s

theorem rtu_settled_blocked (s : State Rtu.PState) : Blocked rtu (settled rtu s) :=
  settled_is_blocked rtu (fun _ => 0) rtu_measure (fun _ => Nat.zero_le _) s

end

end Rodbus.Client
