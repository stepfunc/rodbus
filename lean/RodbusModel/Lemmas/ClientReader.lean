import RodbusModel.Lemmas.ClientRunInv
import RodbusModel.Lemmas.Mbap
import RodbusModel.Lemmas.Rtu
/-
  The reader of the client task: the two loops that run the parser (`readerPoll`, and
  `discardBuffered` inside `startRequest`), for an arbitrary framing.  A predicate of parser state
  and read buffer that both loops keep holds after every script (`RdInv`).  What the task needs of
  a framing comes as four interfaces: a safety invariant (`ReaderSafe`), a measure
  (`ParseMeasure`), a discard loop that runs to the end (`DiscardComplete`), a parser that goes on
  where it stopped when more bytes arrive (`HopInv`).  Each follows from `Refines` (Lemmas/Reader),
  the first two given a fact about `F.init`; MBAP and RTU are instantiated at the end, and no other
  client file looks into a framing.
-/
namespace Rodbus.Client

/- `State.rd` is written in three places of Model/Client.lean: by `pollReader`, by the discard loop
   inside `startRequest`, and by `startPhase` (`reader.reset()`, a fresh `ReadBuffer`). -/

section
variable {σ : Type}

def State.rd (s : State σ) : σ × RB := (s.pst, s.rb)

/-- `P` holds for the fresh reader and is kept by the two loops that run the parser -/
structure RdInv (F : Framing σ) (P : σ × RB → Prop) : Prop where
  init : P (F.init, RB.empty)
  reader : ∀ fuel st rb rx, P (st, rb) →
    P ((readerPoll F fuel st rb rx).2.1, (readerPoll F fuel st rb rx).2.2.1)
  discard : ∀ fuel st rb, P (st, rb) →
    P ((discardBuffered F fuel st rb).2.1, (discardBuffered F fuel st rb).2.2)

/-- `RdInv` for a predicate of the parser state alone -/
structure PstInv (F : Framing σ) (P : σ → Prop) : Prop where
  init : P F.init
  reader : ∀ fuel st rb rx, P st → P (readerPoll F fuel st rb rx).2.1
  discard : ∀ fuel st rb, P st → P (discardBuffered F fuel st rb).2.1

@[simp] theorem rd_emit (s : State σ) (e : LogEntry) : (emit s e).rd = s.rd := rfl

@[simp] theorem rd_complete (s : State σ) (r : Req) (res : Res) : (complete s r res).rd = s.rd :=
  rfl

@[simp] theorem rd_accept (s : State σ) (rid : Rid) : (accept s rid).rd = s.rd := rfl

@[simp] theorem rd_enqueue (s : State σ) (c : Cmd) : (enqueue s c).rd = s.rd := rfl

@[simp] theorem rd_applySetting (s : State σ) (c : Cmd) : (applySetting s c).rd = s.rd := by
  cases c <;> rfl

@[simp] theorem rd_setMock (s : State σ) (m : Nat) (k : Mock) : (setMock s m k).rd = s.rd := rfl

@[simp] theorem rd_moveClock (s : State σ) (target : Nat) : (moveClock s target).rd = s.rd := rfl

@[simp] theorem pst_emit (s : State σ) (e : LogEntry) : (emit s e).pst = s.pst := rfl

@[simp] theorem pst_accept (s : State σ) (rid : Rid) : (accept s rid).pst = s.pst := rfl

@[simp] theorem pst_enqueue (s : State σ) (c : Cmd) : (enqueue s c).pst = s.pst := rfl

@[simp] theorem pst_setMock (s : State σ) (m : Nat) (k : Mock) : (setMock s m k).pst = s.pst := rfl

@[simp] theorem pst_moveClock (s : State σ) (target : Nat) : (moveClock s target).pst = s.pst := rfl

theorem rd_finish (s : State σ) (m : Nat) (r : Req) (res : Res) :
    (finish s m r res).rd = s.rd := by
  obtain ⟨_, _, _, _, _, h⟩ := finish_frame s m r res
  rw [h]; rfl

theorem Applied.rd {s t : State σ} {st : Step} (h : Applied s st t) : t.rd = s.rd := by
  cases h <;> rfl

variable {F : Framing σ} {P : σ × RB → Prop}

theorem Started.rd (hP : RdInv F P) {s t : State σ} {m : Nat} {r : Req}
    (hs : Started F s m r t) (h : P s.rd) : P t.rd := by
  have hd := hP.discard (discardFuel s.rb) s.pst s.rb h
  cases hs with
  | fail y res hy =>
    rw [rd_finish]
    cases hy with
    | encode e _ => exact h
    | discard pdu res st' rb' _ hdd => rw [hdd] at hd; exact hd
    | write pdu st' rb' _ hdd _ => rw [hdd] at hd; exact hd
  | sent pdu st' rb' _ hdd _ => rw [hdd] at hd; exact hd

theorem RdInv.blocks (hP : RdInv F P) : Blocks F (fun s => P s.rd) where
  poll := fun s m h => hP.reader (readerFuel (getMock s m).rx) s.pst s.rb (getMock s m).rx h
  coins := fun _ _ h => h
  session := fun _ _ _ _ => hP.init
  phase := fun _ _ _ _ h => h
  dequeue := fun s m r q t _ hs h => hs.rd hP h
  take := fun s c q _ _ h => by rw [rd_applySetting]; exact h
  noConn := fun _ _ _ _ h => h
  endPhase := fun _ _ h => h
  finish := fun s m q res _ h => by rw [rd_finish]; exact h
  release := fun _ h => h
  clock := fun _ _ h => h

theorem reachable_rd (hP : RdInv F P) (cap maxTo : Nat) (d : Decode) (coins : List Bool)
    (steps : List Step) : P (runState F (State.init F cap maxTo d coins) steps).rd :=
  runState_inv hP.blocks.taskInv (fun _ => True)
    (fun s st _ (h : P s.rd) => (applyStep_cases s st).rd ▸ h) _ steps (fun _ _ => trivial) hP.init

variable {Q : σ → Prop}

theorem PstInv.rdInv (hQ : PstInv F Q) : RdInv F (fun x => Q x.1) :=
  ⟨hQ.init, hQ.reader, hQ.discard⟩

theorem reachable_pst (hQ : PstInv F Q) (cap maxTo : Nat) (d : Decode) (coins : List Bool)
    (steps : List Step) : Q (runState F (State.init F cap maxTo d coins) steps).pst :=
  reachable_rd hQ.rdInv cap maxTo d coins steps

end

/- Safety: the reader never takes the branch in which `ReadBuffer::read_some` is handed an empty
   slice (and reports `UnexpectedEof` although the peer did not close), never reports the internal
   short-read error, and every failure it reports is a framing error of the protocol, a transport
   error that the transport delivered, or an end of file that the transport delivered. -/

section
variable {σ : Type}

/-- does `readerPoll` (same arguments) reach the branch `readSome rb' bs = none`, i.e. does
    `read_some` report the spurious `UnexpectedEof`?  (A mirror of `readerPoll` that only records
    that branch.) -/
def spuriousIn (F : Framing σ) : Nat → σ → RB → List Rx → Bool
  | 0, _, _, _ => false
  | fuel + 1, st, rb, rx =>
    match F.parse st rb with
    | (.none, st', rb') =>
      match rx with
      | .data bs :: rest =>
        if bs = [] then false
        else match readSome rb' bs with
          | none => true
          | some (rb'', rem) =>
            spuriousIn F fuel st' rb'' (if rem = [] then rest else .data rem :: rest)
      | _ => false
    | _ => false

/-- what a failure reported by the reader on the deliveries `rx` can be -/
def ReaderFailure (rx : List Rx) (res : Res) : Prop :=
  (∃ k, res = .bf k) ∨ (res = .io .reset ∧ Rx.err ∈ rx)
    ∨ (res = .io .eof ∧ (Rx.eof ∈ rx ∨ Rx.data [] ∈ rx))

structure ReaderSafe (F : Framing σ) (I : σ × RB → Prop) : Prop where
  init : I (F.init, RB.empty)
  frame : ∀ st rb f st' rb', I (st, rb) → F.parse st rb = (.frame f, st', rb') → I (st', rb')
  none : ∀ st rb st' rb', I (st, rb) → F.parse st rb = (.none, st', rb') →
    I (st', rb') ∧ ∀ bs, readSome rb' bs ≠ Option.none
  read : ∀ st rb bs rb' rem, I (st, rb) → bs ≠ [] → readSome rb bs = some (rb', rem) → I (st, rb')
  err : ∀ st rb e st' rb', I (st, rb) → F.parse st rb = (.err e, st', rb') →
    I (F.init, rb') ∧ e ≠ .internalShortRead ∧ e ≠ .spuriousEof

theorem frameErrRes_bf (e : FrameErr) (h1 : e ≠ .internalShortRead) (h2 : e ≠ .spuriousEof) :
    ∃ k, frameErrRes e = .bf k := by
  cases e <;> simp [frameErrRes] at *

/-- a failure stays genuine when deliveries are put in front that are neither an error, nor the end
    of the stream, nor an empty read -/
theorem ReaderFailure.mono {rx rx' : List Rx} {res : Res} (h : ReaderFailure rx' res)
    (hsub : ∀ x ∈ rx', x ∈ rx ∨ ∃ bs, bs ≠ [] ∧ x = .data bs) : ReaderFailure rx res := by
  have mem : ∀ x ∈ rx', (∀ bs, bs ≠ [] → x ≠ .data bs) → x ∈ rx := fun x hx hne =>
    (hsub x hx).elim id fun ⟨bs, hbs, he⟩ => absurd he (hne bs hbs)
  rcases h with h | ⟨h1, h2⟩ | ⟨h1, h2 | h2⟩
  · exact .inl h
  · exact .inr (.inl ⟨h1, mem _ h2 nofun⟩)
  · exact .inr (.inr ⟨h1, .inl (mem _ h2 nofun)⟩)
  · exact .inr (.inr ⟨h1, .inr (mem _ h2 fun bs hbs he => hbs (Rx.data.inj he).symm)⟩)

variable {F : Framing σ} {I : σ × RB → Prop}

theorem ReaderSafe.readerPoll (hS : ReaderSafe F I) (fuel : Nat) (st : σ) (rb : RB)
    (rx : List Rx) (h : I (st, rb)) :
    I ((readerPoll F fuel st rb rx).2.1, (readerPoll F fuel st rb rx).2.2.1)
      ∧ spuriousIn F fuel st rb rx = false
      ∧ ∀ res, (readerPoll F fuel st rb rx).1 = .fail res → ReaderFailure rx res := by
  fun_induction Client.readerPoll F fuel st rb rx with
  | case1 st rb rx => exact ⟨h, rfl, nofun⟩
  | case2 fuel st rb rx f st' rb' hp =>
    exact ⟨hS.frame _ _ _ _ _ h hp, by simp only [spuriousIn, hp], nofun⟩
  | case3 fuel st rb rx e _ rb' hp =>
    obtain ⟨a, b, c⟩ := hS.err _ _ _ _ _ h hp
    exact ⟨a, by simp only [spuriousIn, hp], fun res hr => by cases hr; exact .inl (frameErrRes_bf e b c)⟩
  | case4 fuel st rb st' rb' hp =>
    exact ⟨(hS.none _ _ _ _ h hp).1, by simp only [spuriousIn, hp], nofun⟩
  | case5 fuel st rb st' rb' hp rest =>
    exact ⟨(hS.none _ _ _ _ h hp).1, by simp only [spuriousIn, hp],
      fun res hr => by cases hr; exact .inr (.inl ⟨rfl, List.mem_cons_self⟩)⟩
  | case6 fuel st rb st' rb' hp rest =>
    exact ⟨(hS.none _ _ _ _ h hp).1, by simp only [spuriousIn, hp],
      fun res hr => by cases hr; exact .inr (.inr ⟨rfl, .inl List.mem_cons_self⟩)⟩
  | case7 fuel st rb st' rb' hp rest =>
    exact ⟨(hS.none _ _ _ _ h hp).1, by simp only [spuriousIn, hp, if_true],
      fun res hr => by cases hr; exact .inr (.inr ⟨rfl, .inr List.mem_cons_self⟩)⟩
  | case8 fuel st rb st' rb' hp bs rest hbs hr => exact absurd hr ((hS.none _ _ _ _ h hp).2 bs)
  | case9 fuel st rb st' rb' hp bs rest hbs rb'' rem hr ih =>
    obtain ⟨i1, i2, i3⟩ := ih (hS.read _ _ _ _ _ (hS.none _ _ _ _ h hp).1 hbs hr)
    refine ⟨i1, by simp only [spuriousIn, hp, hbs, hr, if_false]; exact i2, fun res hres => ?_⟩
    refine (i3 res hres).mono fun x hx => ?_
    split at hx
    · exact .inl (List.mem_cons_of_mem _ hx)
    · rcases List.mem_cons.mp hx with rfl | hx
      · exact .inr ⟨rem, ‹_›, rfl⟩
      · exact .inl (List.mem_cons_of_mem _ hx)

/-- the discard loop keeps the invariant and reports only framing errors of the protocol -/
theorem ReaderSafe.discard (hS : ReaderSafe F I) (fuel : Nat) (st : σ) (rb : RB)
    (h : I (st, rb)) :
    I ((discardBuffered F fuel st rb).2.1, (discardBuffered F fuel st rb).2.2)
      ∧ ∀ res, (discardBuffered F fuel st rb).1 = some res → ∃ k, res = .bf k := by
  fun_induction discardBuffered F fuel st rb with
  | case1 st rb => exact ⟨h, nofun⟩
  | case2 fuel st rb f st' rb' hp ih => exact ih (hS.frame _ _ _ _ _ h hp)
  | case3 fuel st rb st' rb' hp => exact ⟨(hS.none _ _ _ _ h hp).1, nofun⟩
  | case4 fuel st rb e _ rb' hp =>
    obtain ⟨a, b, c⟩ := hS.err _ _ _ _ _ h hp
    exact ⟨a, fun res hr => by cases hr; exact frameErrRes_bf e b c⟩

theorem ReaderSafe.rdInv (hS : ReaderSafe F I) : RdInv F I where
  init := hS.init
  reader := fun fuel st rb rx h => (hS.readerPoll fuel st rb rx h).1
  discard := fun fuel st rb h => (hS.discard fuel st rb h).1

/-- in every reachable state the reader satisfies the invariant -/
theorem ReaderSafe.reachable (hS : ReaderSafe F I) (cap maxTo : Nat) (d : Decode)
    (coins : List Bool) (steps : List Step) :
    I (runState F (State.init F cap maxTo d coins) steps).rd :=
  reachable_rd hS.rdInv cap maxTo d coins steps

/-- For a parser that refines a specification (Lemmas/Reader), "the end of the buffered bytes is
    within the array and the parser state is `Ok`" is a safety invariant of the reader: the parser
    never moves the end, it blocks only with fewer than `need ≤ CAP` bytes buffered, and its errors
    are framing errors. -/
theorem ReaderSafe.of_refines {spec : σ → Bytes → List Event} {Ok : σ → Prop} {need w : σ → Nat}
    (R : Refines F.parse spec Ok need w) (h0 : Ok F.init) :
    ReaderSafe F (fun x => x.2.begin + x.2.data.length ≤ CAP ∧ Ok x.1) where
  init := ⟨Nat.zero_le _, h0⟩
  frame := fun st rb f st' rb' h hp =>
    have hs := R.sim_of_eq hp
    ⟨hs.end_eq ▸ h.1, hs.ok h.2⟩
  none := fun st rb st' rb' h hp => by
    have hs := R.sim_of_eq hp
    have hok := hs.ok h.2
    have hinv : rb'.begin + rb'.data.length ≤ CAP := hs.end_eq ▸ h.1
    exact ⟨⟨hinv, hok⟩, fun bs =>
      readSome_ne_none bs hinv (Nat.lt_of_lt_of_le hs.short (R.need_le st' hok))⟩
  read := fun st rb bs rb' rem h _ hr => ⟨(readSome_some hr).2.1, h.2⟩
  err := fun st rb e st' rb' h hp =>
    have hs := R.sim_of_eq hp
    ⟨⟨hs.end_eq ▸ h.1, h0⟩, hs.ne_internal, hs.ne_spurious⟩

end

section
variable {σ : Type}

/-- `w` weighs the parser state; together with the number of buffered bytes it bounds the number
    of frames the parser can still produce without reading -/
structure ParseMeasure (F : Framing σ) (w : σ → Nat) : Prop where
  init : w F.init = 0
  frame : ∀ st rb f st' rb', F.parse st rb = (.frame f, st', rb') →
    w st' + rb'.data.length < w st + rb.data.length
  none : ∀ st rb st' rb', F.parse st rb = (.none, st', rb') →
    w st' + rb'.data.length ≤ w st + rb.data.length
  err : ∀ st rb e st' rb', F.parse st rb = (.err e, st', rb') →
    rb'.data.length ≤ w st + rb.data.length ∧ e ≠ .internalShortRead

/-- the parser consumes or blocks -/
def Consuming (F : Framing σ) : Prop := ∃ w : σ → Nat, ParseMeasure F w

/-- a parser that refines a specification (Lemmas/Reader) consumes or blocks: the `decr` and `le`
    parts of `Sim` are what `ParseMeasure` asks for -/
theorem ParseMeasure.of_refines {F : Framing σ} {spec : σ → Bytes → List Event} {Ok : σ → Prop}
    {need w : σ → Nat} (R : Refines F.parse spec Ok need w) (hi : w F.init = 0) :
    ParseMeasure F w where
  init := hi
  frame := fun st rb f st' rb' hp => by have := (R.sim_of_eq hp).decr; omega
  none := fun st rb st' rb' hp => by have := (R.sim_of_eq hp).le; omega
  err := fun st rb e st' rb' hp =>
    have hs := R.sim_of_eq hp
    ⟨by have := hs.le; omega, hs.ne_internal⟩

/-- the measure of the reader: unread input counts twice (a byte moved into the buffer still has
    to be parsed) -/
def rdM (w : σ → Nat) (st : σ) (rb : RB) (rx : List Rx) : Nat :=
  2 * rxSize rx + (w st + rb.data.length)

theorem frameErrRes_sessionEnd (e : FrameErr) (h : e ≠ .internalShortRead) :
    (frameErrRes e).sessionEnd ≠ none := by
  cases e <;> simp_all [frameErrRes, Res.sessionEnd]

theorem rxSize_rem (rem : Bytes) (rest : List Rx) :
    rxSize (if rem = [] then rest else .data rem :: rest) ≤ rem.length + 1 + rxSize rest := by
  split
  · omega
  · exact Nat.le_refl _

theorem readerPoll_measure (F : Framing σ) (w : σ → Nat) (hw : ParseMeasure F w) (fuel : Nat)
    (st : σ) (rb : RB) (rx : List Rx) :
    let p := readerPoll F fuel st rb rx
    rdM w p.2.1 p.2.2.1 p.2.2.2 ≤ rdM w st rb rx
      ∧ (∀ f, p.1 = .frame f → rdM w p.2.1 p.2.2.1 p.2.2.2 < rdM w st rb rx)
      ∧ (p.1 = .blocked → rx ≠ [] → fuel ≠ 0 → rdM w p.2.1 p.2.2.1 p.2.2.2 < rdM w st rb rx)
      ∧ (∀ res, p.1 = .fail res → res.sessionEnd ≠ none) := by
  -- the branches of `readerPoll` in its order: no fuel; a frame; a parser error; then after
  -- `Ok(None)`: nothing delivered, a transport error, the end of the stream, an empty read, no room
  -- in the buffer, a read
  fun_induction readerPoll F fuel st rb rx with
  | case1 st rb rx => exact ⟨Nat.le_refl _, nofun, fun _ _ h => absurd rfl h, nofun⟩
  | case2 fuel st rb rx f st' rb' hp =>
    have := hw.frame _ _ _ _ _ hp
    refine ⟨?_, fun _ _ => ?_, nofun, nofun⟩ <;> simp only [rdM] <;> omega
  | case3 fuel st rb rx e _ rb' hp =>
    obtain ⟨h1, h2⟩ := hw.err _ _ _ _ _ hp
    have := hw.init
    refine ⟨by simp only [rdM]; omega, nofun, nofun, fun res hr => ?_⟩
    cases hr; exact frameErrRes_sessionEnd e h2
  | case4 fuel st rb st' rb' hp =>
    have := hw.none _ _ _ _ hp
    exact ⟨by simp only [rdM]; omega, nofun, fun _ h => absurd rfl h, nofun⟩
  | case5 fuel st rb st' rb' hp rest =>
    have := hw.none _ _ _ _ hp
    exact ⟨by simp only [rdM, rxSize]; omega, nofun, nofun, fun res hr => by cases hr; nofun⟩
  | case6 fuel st rb st' rb' hp rest =>
    have := hw.none _ _ _ _ hp
    exact ⟨by simp only [rdM]; omega, nofun, nofun, fun res hr => by cases hr; nofun⟩
  | case7 fuel st rb st' rb' hp rest =>
    have := hw.none _ _ _ _ hp
    exact ⟨by simp only [rdM, rxSize]; omega, nofun, nofun, fun res hr => by cases hr; nofun⟩
  | case8 fuel st rb st' rb' hp bs rest hbs hr =>
    have := hw.none _ _ _ _ hp
    exact ⟨by simp only [rdM]; omega, nofun, nofun, fun res hr => by cases hr; nofun⟩
  | case9 fuel st rb st' rb' hp bs rest hbs rb'' rem hr ih =>
    -- `read_some` moves at least one byte from the delivery into the buffer
    have := hw.none _ _ _ _ hp
    obtain ⟨r1, -, r3⟩ := readSome_some hr
    have := congrArg List.length r1
    have := r3 hbs
    have := rxSize_rem rem rest
    generalize readerPoll F fuel st' rb'' _ = p at ih ⊢
    obtain ⟨b1, -, -, b4⟩ := ih
    have hlt : rdM w p.2.1 p.2.2.1 p.2.2.2 < rdM w st rb (.data bs :: rest) := by
      simp only [rdM, rxSize, List.length_append] at *; omega
    exact ⟨Nat.le_of_lt hlt, fun _ _ => hlt, fun _ _ _ => hlt, b4⟩

theorem discardBuffered_measure (F : Framing σ) (w : σ → Nat) (hw : ParseMeasure F w) (fuel : Nat)
    (st : σ) (rb : RB) (o : Option Res) (st' : σ) (rb' : RB)
    (h : discardBuffered F fuel st rb = (o, st', rb')) :
    w st' + rb'.data.length ≤ w st + rb.data.length
      ∧ ∀ res, o = some res → res.sessionEnd ≠ none := by
  fun_induction discardBuffered F fuel st rb with
  | case1 st rb => cases h; exact ⟨Nat.le_refl _, nofun⟩
  | case2 fuel st rb f st1 rb1 hp ih =>
    have := hw.frame _ _ _ _ _ hp
    exact ⟨by have := (ih h).1; omega, (ih h).2⟩
  | case3 fuel st rb st1 rb1 hp => cases h; exact ⟨hw.none _ _ _ _ hp, nofun⟩
  | case4 fuel st rb e _ rb1 hp =>
    obtain ⟨h1, h2⟩ := hw.err _ _ _ _ _ hp
    have := hw.init
    cases h
    exact ⟨by omega, fun res hr => by cases hr; exact frameErrRes_sessionEnd e h2⟩

end

/- `discard_buffered_frames` (C11): when a request is written, the read buffer holds no complete
   frame, so nothing that had been received completely before can become its result. -/

section
variable {σ : Type}

/-- the discard loop runs until the parser reports `Ok(None)` (its fuel suffices) and that report
    is stable -/
def DiscardComplete (F : Framing σ) : Prop :=
  ∀ st rb st' rb', discardBuffered F (discardFuel rb) st rb = (none, st', rb') →
    F.parse st' rb' = (.none, st', rb')

theorem readerPoll_nil (F : Framing σ) (n : Nat) (st : σ) (rb : RB) :
    readerPoll F (n + 1) st rb [] =
      match F.parse st rb with
      | (.frame f, st', rb') => (.frame f, st', rb', [])
      | (.err e, _, rb') => (.fail (frameErrRes e), F.init, rb', [])
      | (.none, st', rb') => (.blocked, st', rb', []) := by
  rw [readerPoll]
  rcases F.parse st rb with ⟨_ | _ | _, _, _⟩ <;> rfl

theorem readerPoll_blocked (F : Framing σ) (fuel : Nat) (st : σ) (rb : RB)
    (h : F.parse st rb = (.none, st, rb)) : readerPoll F fuel st rb [] = (.blocked, st, rb, []) := by
  cases fuel with
  | zero => rfl
  | succ n => rw [readerPoll_nil, h]

theorem startRequest_reader (F : Framing σ) (hF : DiscardComplete F) (s : State σ) (m : Nat)
    (r : Req) (m' : Nat) (r' : Req) (tx dl : Nat)
    (h : (startRequest F s m r).pos = .inflight m' r' tx dl) :
    F.parse (startRequest F s m r).pst (startRequest F s m r).rb
      = (.none, (startRequest F s m r).pst, (startRequest F s m r).rb) := by
  have hs := startRequest_started F s m r
  generalize startRequest F s m r = t at hs h ⊢
  cases hs with
  | fail y res _ => exact absurd h (finish_pos_not_inflight _ _ _ _ _ _ _ _)
  | sent pdu st' rb' _ hd _ => exact hF _ _ st' rb' hd

/-- Every frame the loop drops lowers `buffered + w`, so fuel above that runs the loop to the
    parser's `Ok(None)`, which is stable (`Sim.stable`). -/
theorem discard_complete {F : Framing σ} {spec : σ → Bytes → List Event} {Ok : σ → Prop}
    {need w : σ → Nat} (R : Refines F.parse spec Ok need w) (fuel : Nat) (st : σ) (rb : RB)
    (st' : σ) (rb' : RB) (hf : rb.data.length + w st < fuel)
    (h : discardBuffered F fuel st rb = (none, st', rb')) : F.parse st' rb' = (.none, st', rb') := by
  fun_induction discardBuffered F fuel st rb with
  | case1 => omega
  | case2 fuel st rb f st1 rb1 hp ih =>
    exact ih (by have := (R.sim_of_eq hp).decr; omega) h
  | case3 fuel st rb st1 rb1 hp =>
    cases h
    exact (R.sim_of_eq hp).stable hp
  | case4 => cases h

/-- `discardFuel rb = rb.data.length + 2` exceeds `buffered + w st` because `w st ≤ 1`
    (`Refines.w_le`) -/
theorem DiscardComplete.of_refines {F : Framing σ} {spec : σ → Bytes → List Event} {Ok : σ → Prop}
    {need w : σ → Nat} (R : Refines F.parse spec Ok need w) : DiscardComplete F :=
  fun st rb st' rb' h =>
    discard_complete R _ st rb st' rb' (by have := R.w_le st; unfold discardFuel; omega) h

end

section
variable {σ : Type}

/-- the parser, asked again after more bytes have arrived, continues where it stopped: when it
    answers `Ok(None)` on the buffered bytes `d`, leaving state `st1` and buffer `rb1`, then
    it answers on `d ++ fut` what it answers from `st1` on `rb1.data ++ fut`; `Ok(None)` does not
    move the end of the buffered bytes and is stable -/
structure HopInv (F : Framing σ) : Prop where
  hop : ∀ st bg d st1 rb1, F.parse st ⟨bg, d⟩ = (.none, st1, rb1) →
    rb1.begin + rb1.data.length = bg + d.length
      ∧ F.parse st1 rb1 = (.none, st1, rb1)
      ∧ ∀ fut, F.parse st ⟨bg, d ++ fut⟩ = F.parse st1 ⟨rb1.begin, rb1.data ++ fut⟩

/-- a parser that refines a specification (Lemmas/Reader) continues where it stopped -/
theorem HopInv.of_refines {F : Framing σ} {spec : σ → Bytes → List Event} {Ok : σ → Prop}
    {need w : σ → Nat} (R : Refines F.parse spec Ok need w) : HopInv F where
  hop := fun _ _ _ _ _ hp =>
    have hsim := R.sim_of_eq hp
    ⟨hsim.end_eq, hsim.stable hp, hsim.cont⟩

theorem readerPoll_data (F : Framing σ) (n : Nat) (st : σ) (rb : RB) (c : Bytes) (hc : c ≠ [])
    (st0 : σ) (rb0 : RB) (hp : F.parse st rb = (.none, st0, rb0))
    (hfit : rb0.begin + rb0.data.length + c.length ≤ CAP) :
    readerPoll F (n + 2) st rb [.data c] =
      match F.parse st0 ⟨rb0.normalize.begin, rb0.data ++ c⟩ with
      | (.frame f, st', rb') => (.frame f, st', rb', [])
      | (.err e, _, rb') => (.fail (frameErrRes e), F.init, rb', [])
      | (.none, st', rb') => (.blocked, st', rb', []) := by
  rw [readerPoll]
  simp only [hp, hc, if_false, readSome_fits rb0 c hc hfit, if_true]
  exact readerPoll_nil F n st0 _

theorem readerFuel_data (c : Bytes) : readerFuel [.data c] = c.length + 1 + 2 := by
  simp [readerFuel, rxSize]

/-- what `hmid` says about the parser: the first call asks for more bytes, the bytes of `a` are
    read behind what is buffered, and the second call asks for more bytes again; with what `HopInv`
    says of the two calls -/
theorem readerPoll_mid (F : Framing σ) (hH : HopInv F) (st : σ) (rb : RB) (a : Bytes) (ha : a ≠ [])
    (hfit : rb.begin + rb.data.length + a.length ≤ CAP) (st1 : σ) (rb1 : RB)
    (hmid : readerPoll F (readerFuel [.data a]) st rb [.data a] = (.blocked, st1, rb1, [])) :
    ∃ st0 rb0, F.parse st rb = (.none, st0, rb0)
      ∧ rb0.begin + rb0.data.length = rb.begin + rb.data.length
      ∧ F.parse st0 ⟨rb0.normalize.begin, rb0.data ++ a⟩ = (.none, st1, rb1)
      ∧ rb1.begin + rb1.data.length = rb0.normalize.begin + (rb0.data.length + a.length)
      ∧ F.parse st1 rb1 = (.none, st1, rb1)
      ∧ ∀ fut, F.parse st0 ⟨rb0.normalize.begin, rb0.data ++ a ++ fut⟩
          = F.parse st1 ⟨rb1.begin, rb1.data ++ fut⟩ := by
  rw [readerFuel_data] at hmid
  cases hp : F.parse st rb with
  | mk r x =>
    obtain ⟨st0, rb0⟩ := x
    cases r with
    | frame f => rw [readerPoll] at hmid; simp [hp] at hmid
    | err e => rw [readerPoll] at hmid; simp [hp] at hmid
    | none =>
      obtain ⟨hend0, _, _⟩ := hH.hop st rb.begin rb.data st0 rb0 hp
      rw [readerPoll_data F _ st rb a ha st0 rb0 hp (by omega)] at hmid
      cases hp2 : F.parse st0 ⟨rb0.normalize.begin, rb0.data ++ a⟩ with
      | mk r2 x2 =>
        obtain ⟨st1', rb1'⟩ := x2
        rw [hp2] at hmid
        cases r2 with
        | frame f => simp at hmid
        | err e => simp at hmid
        | none =>
          simp only [Prod.mk.injEq, true_and] at hmid
          obtain ⟨rfl, rfl, _⟩ := hmid
          obtain ⟨hend1, hst1, hhop⟩ := hH.hop st0 _ _ st1' rb1' hp2
          exact ⟨st0, rb0, rfl, hend0, hp2, by simpa using hend1, hst1, hhop⟩

/-- If the delivery `a` alone leaves the reader blocked in `(st1, rb1)` with bytes still buffered,
    and `a ++ b` fits behind what is buffered, then the reader polled on the joint delivery `a ++ b`
    yields what it yields polled on `b` from `(st1, rb1)`: the same frame / failure / blocking, the
    same parser state, the same buffer and the same unread rest. -/
theorem readerPoll_split (F : Framing σ) (hH : HopInv F) (st : σ) (rb : RB) (a b : Bytes)
    (ha : a ≠ []) (hb : b ≠ [])
    (hfit : rb.begin + rb.data.length + a.length + b.length ≤ CAP) (st1 : σ) (rb1 : RB)
    (hmid : readerPoll F (readerFuel [.data a]) st rb [.data a] = (.blocked, st1, rb1, []))
    (hne : rb1.data ≠ []) :
    readerPoll F (readerFuel [.data (a ++ b)]) st rb [.data (a ++ b)]
      = readerPoll F (readerFuel [.data b]) st1 rb1 [.data b] := by
  obtain ⟨st0, rb0, hp, hend0, hp2, hend1, hst1, hhop⟩ :=
    readerPoll_mid F hH st rb a ha (by omega) st1 rb1 hmid
  have hnb := rb0.normalize_begin_le
  -- the buffer after `a` is neither empty nor full: the second read does not move it
  have hnorm : rb1.normalize.begin = rb1.begin := by
    have := List.length_pos_iff.mpr hb
    rw [RB.normalize_eq]; dsimp only
    rw [if_neg (by rintro (h | h); exact hne h; omega)]
  rw [readerFuel_data, readerFuel_data,
    readerPoll_data F _ st rb (a ++ b) (by simp [ha]) st0 rb0 hp
      (by simp only [List.length_append]; omega),
    readerPoll_data F _ st1 rb1 b hb st1 rb1 hst1 (by omega), hnorm, ← List.append_assoc, hhop b]

end

/-- the weight in `Mbap.refines` (`Mbap.hdr`, the same function: `mbap_measure` needs the two
    definitionally equal): a frame with an empty PDU is completed from `.header _ 0` without
    consuming a byte, so a parsed header counts as one buffered byte -/
def mbapW : Mbap.PState → Nat
  | .begin => 0
  | .header _ _ => 1

theorem mbapW_le_one (st : Mbap.PState) : mbapW st ≤ 1 := Mbap.refines.w_le st

/-- the bound `mu_lt_settleFuel` (Lemmas/ClientSettle) asks for -/
theorem mbapW_le_eleven (st : Mbap.PState) : mbapW st ≤ 11 :=
  Nat.le_trans (mbapW_le_one st) (by decide)

theorem mbap_measure : ParseMeasure mbap mbapW := .of_refines (F := mbap) Mbap.refines rfl

theorem mbap_consuming : Consuming mbap := ⟨mbapW, mbap_measure⟩

theorem rtu_measure : ParseMeasure rtu (fun _ => 0) :=
  .of_refines (F := rtu) (Rtu.refines .response) rfl

theorem rtu_consuming : Consuming rtu := ⟨fun _ => 0, rtu_measure⟩

/-- MBAP: indices within the 260-byte array, pending ADU length at most 253 -/
def MbapRd (x : Mbap.PState × RB) : Prop := Mbap.Inv x.2 ∧ Mbap.StOk x.1

theorem mbap_readerSafe : ReaderSafe mbap MbapRd :=
  .of_refines (F := mbap) Mbap.refines trivial

/-- RTU (response parser): indices within the 260-byte array, parser in a state it can be in
    between calls -/
def RtuRd (x : Rtu.PState × RB) : Prop := Rtu.Inv x.2 ∧ Rtu.StOk x.1

theorem rtu_readerSafe : ReaderSafe rtu RtuRd :=
  .of_refines (F := rtu) (Rtu.refines .response) trivial

/-- in every reachable state of the RTU client the parser is in a state it can be in between
    calls -/
theorem rtu_stok_reachable (cap maxTo : Nat) (d : Decode) (coins : List Bool) (steps : List Step) :
    Rtu.StOk (runState rtu (State.init rtu cap maxTo d coins) steps).pst :=
  (rtu_readerSafe.reachable cap maxTo d coins steps).2

theorem mbap_discardComplete : DiscardComplete mbap := .of_refines (F := mbap) Mbap.refines

theorem rtu_discardComplete : DiscardComplete rtu := .of_refines (F := rtu) (Rtu.refines .response)

theorem mbap_hopInv : HopInv mbap := .of_refines (F := mbap) Mbap.refines

theorem rtu_hopInv : HopInv rtu := .of_refines (F := rtu) (Rtu.refines .response)

/-- a delivery `a` that leaves the RTU reader blocked leaves bytes buffered: (H5) of
    Props/C05Client always holds -/
theorem rtu_mid_nonempty (st : Rtu.PState) (rb : RB) (a : Bytes) (ha : a ≠ [])
    (hfit : rb.begin + rb.data.length + a.length ≤ CAP) (st1 : Rtu.PState) (rb1 : RB)
    (hmid : readerPoll rtu (readerFuel [.data a]) st rb [.data a] = (.blocked, st1, rb1, [])) :
    rb1.data ≠ [] := by
  obtain ⟨st0, rb0, _, _, hp2, _⟩ := readerPoll_mid rtu rtu_hopInv st rb a ha hfit st1 rb1 hmid
  exact Rtu.parse_none_nonempty hp2 (by simp [ha])

end Rodbus.Client
