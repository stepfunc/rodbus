import RodbusModel.Spec.Lifecycle
import RodbusModel.Spec.LifecycleObs
/-
  What the invariants of the life cycle are built on: what the small functions of
  `Model/Lifecycle.lean` compute, legal paths, runs and reachable positions, the counting of
  submissions, completions and queued requests, and what the handles of an ended task log
  (`C13.afterEvents`).
-/
namespace Rodbus.Life
open Rodbus.Spec.Life

@[simp] theorem fails_refuse : Behaviour.fails .refuse = true := rfl
@[simp] theorem fails_hsfail : Behaviour.fails .hsfail = true := rfl
@[simp] theorem fails_close : Behaviour.fails .close = false := rfl
@[simp] theorem fails_garbage : Behaviour.fails .garbage = false := rfl
@[simp] theorem fails_silent : Behaviour.fails .silent = false := rfl
@[simp] theorem fails_serve : Behaviour.fails .serve = false := rfl
@[simp] theorem fails_serveN (k : Nat) (w : Bool) : Behaviour.fails (.serveN k w) = false := rfl

@[simp] theorem gone_refuse (n : Nat) : Behaviour.gone .refuse n = false := rfl
@[simp] theorem gone_hsfail (n : Nat) : Behaviour.gone .hsfail n = false := rfl
@[simp] theorem gone_close (n : Nat) : Behaviour.gone .close n = true := rfl
@[simp] theorem gone_garbage (n : Nat) : Behaviour.gone .garbage n = true := rfl
@[simp] theorem gone_silent (n : Nat) : Behaviour.gone .silent n = false := rfl
@[simp] theorem gone_serve (n : Nat) : Behaviour.gone .serve n = false := rfl
@[simp] theorem gone_serveN_wait (k n : Nat) : Behaviour.gone (.serveN k true) n = false := rfl
@[simp] theorem gone_serveN (k n : Nat) : Behaviour.gone (.serveN k false) n = decide (k ≤ n) := rfl
@[simp] theorem dropsNext_refuse (n : Nat) : Behaviour.dropsNext .refuse n = false := rfl
@[simp] theorem dropsNext_hsfail (n : Nat) : Behaviour.dropsNext .hsfail n = false := rfl
@[simp] theorem dropsNext_close (n : Nat) : Behaviour.dropsNext .close n = false := rfl
@[simp] theorem dropsNext_garbage (n : Nat) : Behaviour.dropsNext .garbage n = false := rfl
@[simp] theorem dropsNext_silent (n : Nat) : Behaviour.dropsNext .silent n = false := rfl
@[simp] theorem dropsNext_serve (n : Nat) : Behaviour.dropsNext .serve n = false := rfl
@[simp] theorem dropsNext_serveN (k n : Nat) : Behaviour.dropsNext (.serveN k false) n = false := rfl
@[simp] theorem dropsNext_serveN_wait (k n : Nat) :
    Behaviour.dropsNext (.serveN k true) n = decide (k ≤ n) := rfl

@[simp] theorem lost_eq (s : S) :
    lost s = .halt s.closeConn (.gate (.waitDisc (Retry.afterDisconnect s.retry)) .failFor) := rfl

theorem advance_zero (ph : Phase) (s : S) : advance 0 ph s = (s, .idle ph) := rfl

theorem advance_succ (fuel : Nat) (ph : Phase) (s : S) :
    advance (fuel + 1) ph s = (step ph s).fin (advance fuel) := rfl

theorem fuelFor_succ (s : S) : fuelFor s = (2 * s.queue.length + 7) + 1 := rfl

def Res.sat (P : Phase → S → Prop) (Q : S → Pos → Prop) : Res → Prop
  | .cont ph s => P ph s
  | .halt s pos => Q s pos

@[simp] theorem Res.sat_cont {P Q ph s} : (Res.cont ph s).sat P Q = P ph s := rfl
@[simp] theorem Res.sat_halt {P Q s pos} : (Res.halt s pos).sat P Q = Q s pos := rfl

def Res.state : Res → S
  | .cont _ s => s
  | .halt s _ => s

@[simp] theorem Res.state_cont {ph s} : (Res.cont ph s).state = s := rfl
@[simp] theorem Res.state_halt {s pos} : (Res.halt s pos).state = s := rfl

@[simp] theorem states_nil : states [] = [] := rfl

@[simp] theorem states_append (a b : List Ev) : states (a ++ b) = states a ++ states b := by
  simp [states, List.filterMap_append]

@[simp] theorem states_gate (st : St) : states [.gate st] = [st] := rfl
@[simp] theorem states_idle : states [.idle] = [] := rfl
@[simp] theorem states_act (a : Action) : states [.act a] = [] := rfl
@[simp] theorem states_done (id : Nat) (r : String) : states [.done id r] = [] := rfl

@[simp] theorem emit_log (s : S) (e : Ev) : (s.emit e).log = s.log ++ [e] := rfl
@[simp] theorem emit_enabled (s : S) (e : Ev) : (s.emit e).enabled = s.enabled := rfl
@[simp] theorem emit_queue (s : S) (e : Ev) : (s.emit e).queue = s.queue := rfl
@[simp] theorem emit_handles (s : S) (e : Ev) : (s.emit e).handles = s.handles := rfl
@[simp] theorem emit_retry (s : S) (e : Ev) : (s.emit e).retry = s.retry := rfl
@[simp] theorem emit_behaviours (s : S) (e : Ev) : (s.emit e).behaviours = s.behaviours := rfl
@[simp] theorem emit_cur (s : S) (e : Ev) : (s.emit e).cur = s.cur := rfl
@[simp] theorem emit_maxto (s : S) (e : Ev) : (s.emit e).maxto = s.maxto := rfl
@[simp] theorem emit_tcount (s : S) (e : Ev) : (s.emit e).tcount = s.tcount := rfl
@[simp] theorem emit_alive (s : S) (e : Ev) : (s.emit e).alive = s.alive := rfl
@[simp] theorem emit_decode (s : S) (e : Ev) : (s.emit e).decode = s.decode := rfl
@[simp] theorem emit_conn (s : S) (e : Ev) : (s.emit e).conn = s.conn := rfl
@[simp] theorem emit_unreported (s : S) (e : Ev) : (s.emit e).unreported = s.unreported := rfl
@[simp] theorem emit_served (s : S) (e : Ev) : (s.emit e).served = s.served := rfl
@[simp] theorem emit_coins (s : S) (e : Ev) : (s.emit e).coins = s.coins := rfl
@[simp] theorem emit_starved (s : S) (e : Ev) : (s.emit e).starved = s.starved := rfl

@[simp] theorem states_closed : states [.closed] = [] := rfl
@[simp] theorem states_refused (a : Action) : states [.refused a] = [] := rfl

@[simp] theorem closeConn_log (s : S) : s.closeConn.log = s.log := rfl
@[simp] theorem closeConn_enabled (s : S) : s.closeConn.enabled = s.enabled := rfl
@[simp] theorem closeConn_queue (s : S) : s.closeConn.queue = s.queue := rfl
@[simp] theorem closeConn_handles (s : S) : s.closeConn.handles = s.handles := rfl
@[simp] theorem closeConn_retry (s : S) : s.closeConn.retry = s.retry := rfl
@[simp] theorem closeConn_behaviours (s : S) : s.closeConn.behaviours = s.behaviours := rfl
@[simp] theorem closeConn_cur (s : S) : s.closeConn.cur = s.cur := rfl
@[simp] theorem closeConn_maxto (s : S) : s.closeConn.maxto = s.maxto := rfl
@[simp] theorem closeConn_tcount (s : S) : s.closeConn.tcount = s.tcount := rfl
@[simp] theorem closeConn_alive (s : S) : s.closeConn.alive = s.alive := rfl
@[simp] theorem closeConn_decode (s : S) : s.closeConn.decode = s.decode := rfl
@[simp] theorem closeConn_conn (s : S) : s.closeConn.conn = false := rfl
@[simp] theorem closeConn_unreported (s : S) : s.closeConn.unreported = true := rfl
@[simp] theorem closeConn_served (s : S) : s.closeConn.served = s.served := rfl
@[simp] theorem closeConn_coins (s : S) : s.closeConn.coins = s.coins := rfl
@[simp] theorem closeConn_starved (s : S) : s.closeConn.starved = s.starved := rfl

@[simp] theorem coinPop_log (s : S) : s.coinPop.log = s.log := rfl
@[simp] theorem coinPop_enabled (s : S) : s.coinPop.enabled = s.enabled := rfl
@[simp] theorem coinPop_queue (s : S) : s.coinPop.queue = s.queue := rfl
@[simp] theorem coinPop_handles (s : S) : s.coinPop.handles = s.handles := rfl
@[simp] theorem coinPop_retry (s : S) : s.coinPop.retry = s.retry := rfl
@[simp] theorem coinPop_behaviours (s : S) : s.coinPop.behaviours = s.behaviours := rfl
@[simp] theorem coinPop_cur (s : S) : s.coinPop.cur = s.cur := rfl
@[simp] theorem coinPop_maxto (s : S) : s.coinPop.maxto = s.maxto := rfl
@[simp] theorem coinPop_tcount (s : S) : s.coinPop.tcount = s.tcount := rfl
@[simp] theorem coinPop_alive (s : S) : s.coinPop.alive = s.alive := rfl
@[simp] theorem coinPop_decode (s : S) : s.coinPop.decode = s.decode := rfl
@[simp] theorem coinPop_conn (s : S) : s.coinPop.conn = s.conn := rfl
@[simp] theorem coinPop_unreported (s : S) : s.coinPop.unreported = s.unreported := rfl
@[simp] theorem coinPop_served (s : S) : s.coinPop.served = s.served := rfl

theorem report_eq (s : S) : s.report =
    { s with log := s.log ++ (if s.unreported then [.closed] else []), unreported := false } := by
  unfold S.report
  cases s
  split <;> simp_all [S.emit]

theorem report_of_false (s : S) (h : s.unreported = false) : s.report = s := by
  simp [S.report, h]

@[simp] theorem report_states (s : S) : states s.report.log = states s.log := by
  rw [report_eq]; split <;> simp

@[simp] theorem report_unreported (s : S) : s.report.unreported = false := by rw [report_eq]

theorem nextBehaviour_snd (s : S) :
    (nextBehaviour s).2 = { s with behaviours := (nextBehaviour s).2.behaviours } := by
  unfold nextBehaviour; split <;> rfl

theorem legalPath_append_one (ss : List St) (x : St) :
    legalPath (ss ++ [x]) =
      (legalPath ss && (match ss.getLast? with | none => true | some l => legalNext l x)) := by
  induction ss with
  | nil => simp [legalPath]
  | cons a t ih =>
    cases t with
    | nil => simp [legalPath]
    | cons b u =>
      rw [List.cons_append, List.cons_append, legalPath, legalPath, ← List.cons_append, ih]
      simp [List.getLast?_cons_cons, Bool.and_assoc]

theorem legalNext_shutdown_left (x : St) : legalNext .shutdown x = false := by
  cases x <;> rfl

theorem legalNext_connected {l : St} (h : legalNext l .connected = true) : l = .connecting := by
  cases l <;> first | rfl | exact absurd h (by simp [legalNext])

/-- on a legal path `Shutdown` has no successor -/
theorem legalPath_shutdown_last : ∀ (ss : List St), legalPath ss = true →
    ss.count .shutdown ≤ 1 ∧ (ss.all (· ≠ .shutdown) = true ∨ ss.getLast? = some .shutdown)
  | [], _ => by simp
  | [a], _ => by by_cases h : a = .shutdown <;> simp [h]
  | a :: b :: rest, h => by
    rw [legalPath, Bool.and_eq_true] at h
    have ih := legalPath_shutdown_last (b :: rest) h.2
    have ha : a ≠ .shutdown := by
      intro e; rw [e, legalNext_shutdown_left] at h; exact absurd h.1 (by decide)
    constructor
    · rw [List.count_cons_of_ne ha]
      exact ih.1
    · rcases ih.2 with h1 | h1
      · left
        rw [List.all_cons, h1]
        simpa using ha
      · right
        rw [List.getLast?_cons_cons]; exact h1

theorem legalLog_of (log : List Ev)
    (hhead : (states log).head? = some .disabled ∨ states log = [])
    (hpath : legalPath (states log) = true) : legalLog log = true := by
  have := legalPath_shutdown_last _ hpath
  unfold legalLog
  simp only [Bool.and_eq_true, Bool.or_eq_true, decide_eq_true_eq, beq_iff_eq, List.isEmpty_iff]
  exact ⟨⟨⟨hhead, hpath⟩, this.1⟩, this.2⟩

theorem legalPath_adjacent (pre : List St) (a b : St) (post : List St)
    (h : legalPath (pre ++ a :: b :: post) = true) : legalNext a b = true := by
  induction pre with
  | nil => simp [legalPath] at h; exact h.1
  | cons x pre ih =>
    cases pre with
    | nil => simp [legalPath] at h; exact h.2.1
    | cons y pre =>
      simp only [List.cons_append, legalPath, Bool.and_eq_true] at h
      exact ih (by simpa using h.2)

/-- fixes the task's own fields only: retry strategy, peer behaviours, timeout limit and scheduler
    coins of `s0` are arbitrary, so a theorem over runs holds for every environment -/
def Initial (s0 : S) : Prop :=
  s0.enabled = false ∧ s0.queue = [] ∧ s0.handles = true ∧ s0.log = [] ∧ s0.alive = true ∧
  s0.tcount = 0 ∧ s0.conn = false ∧ s0.unreported = false

theorem Initial.enabled {s0 : S} (h : Initial s0) : s0.enabled = false := h.1
theorem Initial.queue {s0 : S} (h : Initial s0) : s0.queue = [] := h.2.1
theorem Initial.handles {s0 : S} (h : Initial s0) : s0.handles = true := h.2.2.1
theorem Initial.log {s0 : S} (h : Initial s0) : s0.log = [] := h.2.2.2.1
theorem Initial.alive {s0 : S} (h : Initial s0) : s0.alive = true := h.2.2.2.2.1
theorem Initial.conn {s0 : S} (h : Initial s0) : s0.conn = false := h.2.2.2.2.2.2.1
theorem Initial.unreported {s0 : S} (h : Initial s0) : s0.unreported = false := h.2.2.2.2.2.2.2

def run (s0 : S) (script : List (List Action)) : S × Pos :=
  runStops (start s0).1 (start s0).2 script

theorem runStops_cons (s : S) (pos : Pos) (acts : List Action) (rest : List (List Action)) :
    runStops s pos (acts :: rest) = runStops (stop s pos acts).1 (stop s pos acts).2 rest := by
  rfl

theorem runStops_append (s : S) (pos : Pos) (a b : List (List Action)) :
    runStops s pos (a ++ b) = runStops (runStops s pos a).1 (runStops s pos a).2 b := by
  induction a generalizing s pos with
  | nil => simp [runStops]
  | cons x a ih => simp only [List.cons_append, runStops_cons]; exact ih _ _

def Reachable (s : S) (pos : Pos) : Prop :=
  ∃ s0 script, Initial s0 ∧ run s0 script = (s, pos)

theorem reachable_run {s0 : S} (h0 : Initial s0) (script : List (List Action)) :
    Reachable (run s0 script).1 (run s0 script).2 := ⟨s0, script, h0, rfl⟩

theorem Reachable.runStops {s pos} (h : Reachable s pos) (script : List (List Action)) :
    Reachable (runStops s pos script).1 (runStops s pos script).2 := by
  obtain ⟨s0, sc, hi, hr⟩ := h
  refine ⟨s0, sc ++ script, hi, ?_⟩
  unfold run at *
  rw [runStops_append, hr]

/-- the completions produced for a consumed stretch of the queue while not connected -/
def noconnEvents (q : List Cmd) : List Ev :=
  q.filterMap fun c => match c with | .request id => some (.done id "noconn") | _ => none

@[simp] theorem noconnEvents_nil : noconnEvents [] = [] := rfl
@[simp] theorem noconnEvents_request (id : Nat) (q : List Cmd) :
    noconnEvents (.request id :: q) = .done id "noconn" :: noconnEvents q := rfl
@[simp] theorem noconnEvents_enable (q : List Cmd) : noconnEvents (.enable :: q) = noconnEvents q := rfl
@[simp] theorem noconnEvents_disable (q : List Cmd) : noconnEvents (.disable :: q) = noconnEvents q := rfl
@[simp] theorem noconnEvents_shutdown (q : List Cmd) : noconnEvents (.shutdown :: q) = noconnEvents q := rfl
@[simp] theorem noconnEvents_decode (l : Nat) (q : List Cmd) : noconnEvents (.decode l :: q) = noconnEvents q := rfl
theorem noconnEvents_append (a b : List Cmd) :
    noconnEvents (a ++ b) = noconnEvents a ++ noconnEvents b := by
  simp [noconnEvents, List.filterMap_append]

theorem noconnEvents_requests (l : List Nat) :
    noconnEvents (l.map Cmd.request) = l.map (fun id => Ev.done id "noconn") := by
  induction l with
  | nil => rfl
  | cons i l ih => simp [ih]

theorem mem_noconnEvents (id : Nat) (q : List Cmd) (h : Cmd.request id ∈ q) :
    Ev.done id "noconn" ∈ noconnEvents q := by
  simp only [noconnEvents, List.mem_filterMap]
  exact ⟨_, h, rfl⟩

/-- the completions produced when the task ends with commands still queued -/
def shutdownEvents (q : List Cmd) : List Ev :=
  q.filterMap fun c => match c with | .request id => some (.done id "shutdown") | _ => none

/-- how often request `id` was submitted through a live handle -/
def submitted (id : Nat) (log : List Ev) : Nat := log.count (.act (.request id))

def isDone (id : Nat) : Ev → Bool
  | .done i _ => i == id
  | _ => false

/-- how often request `id` was completed (with any result) -/
def completed (id : Nat) (log : List Ev) : Nat := log.countP (isDone id)

def queued (id : Nat) (q : List Cmd) : Nat := q.count (.request id)

@[simp] theorem submitted_append (id : Nat) (a b : List Ev) :
    submitted id (a ++ b) = submitted id a + submitted id b := by simp [submitted]
@[simp] theorem completed_append (id : Nat) (a b : List Ev) :
    completed id (a ++ b) = completed id a + completed id b := by simp [completed]
@[simp] theorem queued_append (id : Nat) (a b : List Cmd) :
    queued id (a ++ b) = queued id a + queued id b := by simp [queued]

attribute [simp] isDone

@[simp] theorem submitted_singleton (id : Nat) (e : Ev) :
    submitted id [e] = if e = .act (.request id) then 1 else 0 := by
  simp [submitted, List.count_singleton]
@[simp] theorem completed_singleton (id : Nat) (e : Ev) :
    completed id [e] = if isDone id e then 1 else 0 := by
  simp [completed, List.countP_cons]
@[simp] theorem completed_act (id : Nat) (a : Action) : completed id [.act a] = 0 := by simp
@[simp] theorem submitted_refused (id : Nat) (a : Action) : submitted id [.refused a] = 0 := by simp
@[simp] theorem completed_refused (id : Nat) (a : Action) : completed id [.refused a] = 0 := by simp
@[simp] theorem report_submitted (id : Nat) (s : S) : submitted id s.report.log = submitted id s.log := by
  rw [report_eq]; split <;> simp
@[simp] theorem queued_nil (id : Nat) : queued id [] = 0 := rfl
@[simp] theorem queued_cons (id : Nat) (c : Cmd) (q : List Cmd) :
    queued id (c :: q) = queued id q + if c = .request id then 1 else 0 := by
  simp [queued, List.count_cons]

end Rodbus.Life

namespace Rodbus.C13
open Rodbus.Life Rodbus.Spec.Life

/-- what the handles of the ended task log for a list of actions (`h`: a handle is left):
    a request is submitted and completed with `shutdown` at once, every other call is refused
    with `shutdown`, dropping the handles ends it -/
def afterEvents : Bool → List Action → List Ev
  | false, _ => []
  | true, [] => []
  | true, .request id :: r => .act (.request id) :: .done id "shutdown" :: afterEvents true r
  | true, .dropAll :: _ => [.act .dropAll]
  | true, .enable :: r => .refused .enable :: afterEvents true r
  | true, .disable :: r => .refused .disable :: afterEvents true r
  | true, .shutdown :: r => .refused .shutdown :: afterEvents true r
  | true, .setDecode l :: r => .refused (.setDecode l) :: afterEvents true r

theorem foldl_applyDone_eq (acts : List Action) (s : S) :
    acts.foldl applyDone s =
      { s with log := s.log ++ afterEvents s.handles acts,
               handles := s.handles && !acts.contains .dropAll } := by
  induction acts generalizing s with
  | nil => cases hh : s.handles <;> simp [afterEvents] <;> (cases s; simp_all)
  | cons a acts ih =>
    simp only [List.foldl_cons]
    rw [ih]
    cases hh : s.handles
    · simp [applyDone, hh, afterEvents]
    · cases a <;> simp [applyDone, hh, afterEvents, S.emit, List.append_assoc]

theorem runStops_done_eq (script : List (List Action)) (s : S) :
    runStops s .done script = (script.flatten.foldl applyDone s, .done) := by
  induction script generalizing s with
  | nil => rfl
  | cons acts rest ih =>
    rw [runStops_cons]
    simp only [stop, List.flatten_cons, List.foldl_append]
    exact ih _

/-- no state announcement, no idle period, no connection event; every completion is `shutdown` -/
theorem afterEvents_quiet (h : Bool) (acts : List Action) :
    ∀ e ∈ afterEvents h acts, Spec.LifeObs.quiet e = true := by
  induction acts with
  | nil => cases h <;> simp [afterEvents]
  | cons a acts ih =>
    cases h
    · simp [afterEvents]
    · cases a <;> simp [afterEvents, Spec.LifeObs.quiet] <;> exact ih

theorem afterEvents_exactly_once (h : Bool) (acts : List Action) (id : Nat) :
    completed id (afterEvents h acts) = submitted id (afterEvents h acts) := by
  induction acts with
  | nil => cases h <;> simp [afterEvents, completed, submitted]
  | cons a acts ih =>
    cases h
    · simp [afterEvents, completed, submitted]
    · cases a <;>
        simp only [afterEvents, completed, submitted, isDone, List.countP_cons, List.count_cons,
          List.countP_nil, List.count_nil] at ih ⊢ <;> simp_all <;> omega

end Rodbus.C13
