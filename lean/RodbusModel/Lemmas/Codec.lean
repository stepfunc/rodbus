import RodbusModel.Model.Pdu
/-
  What the server side (Lemmas/Server.lean) and the client side (Lemmas/ClientPdu.lean) both need
  of the layers below a PDU: function codes, `Range.tryFrom`, bit and register packing and
  unpacking, `indexed`, `ExCode.ofByte`, and the getter loop `readSeq` with its first failure.
-/
namespace Rodbus

theorem Fc.ofByte_toByte (fc : Fc) : Fc.ofByte fc.toByte = some fc := by cases fc <;> rfl

/-- the if-cascade of `FunctionCode::get` is the lookup of the byte among the bytes of the eight
    codes -/
theorem Fc.ofByte_lookup (b : Nat) :
    Fc.ofByte b = (Fc.all.map fun fc => (fc.toByte, fc)).lookup b := by
  by_cases h1 : b = 1; · subst h1; rfl
  by_cases h2 : b = 2; · subst h2; rfl
  by_cases h3 : b = 3; · subst h3; rfl
  by_cases h4 : b = 4; · subst h4; rfl
  by_cases h5 : b = 5; · subst h5; rfl
  by_cases h6 : b = 6; · subst h6; rfl
  by_cases h15 : b = 15; · subst h15; rfl
  by_cases h16 : b = 16; · subst h16; rfl
  simp only [Fc.ofByte, Fc.all, Fc.toByte, List.map, List.lookup, beq_false_of_ne, ne_eq,
    not_false_eq_true, if_false, *]

theorem Fc.toByte_of_ofByte {b : Nat} {fc : Fc} (h : Fc.ofByte b = some fc) : fc.toByte = b := by
  rw [Fc.ofByte_lookup] at h
  obtain ⟨l₁, l₂, hl, _⟩ := List.lookup_eq_some_iff.1 h
  have hm : (b, fc) ∈ Fc.all.map fun fc => (fc.toByte, fc) := by rw [hl]; simp
  obtain ⟨fc', _, he⟩ := List.mem_map.1 hm
  cases he; rfl

theorem Fc.toByte_lt (fc : Fc) : fc.toByte < 128 := by cases fc <;> decide

theorem orErr_toByte (fc : Fc) : orErr fc.toByte = fc.toByte + 128 := by
  have := Fc.toByte_lt fc
  unfold orErr
  split <;> omega

/-- `AddressRange::try_from` as the two tests it makes.  For a count that fits a u16 the Rust
    comparison `start > 65535 - (count - 1)` is `start + count > 65536`; beyond that the truncated
    subtraction is 0 and start 0 is accepted, so the hypothesis is needed. -/
theorem Range.tryFrom_eq {s c : Nat} (hc : c ≤ 65536) :
    Range.tryFrom s c = if c = 0 then .error .countOfZero
      else if 65536 < s + c then .error .addressOverflow else .ok ⟨s, c⟩ := by
  unfold Range.tryFrom
  split
  · rfl
  · have : s > 65535 - (c - 1) ↔ 65536 < s + c := by omega
    simp only [this]

theorem Range.tryFrom_ok_iff {s c : Nat} (hc : c ≤ 65536) (r : Range) :
    Range.tryFrom s c = .ok r ↔ c ≠ 0 ∧ s + c ≤ 65536 ∧ r = ⟨s, c⟩ := by
  rw [Range.tryFrom_eq hc]
  by_cases h0 : c = 0
  · simp [h0]
  · by_cases h1 : 65536 < s + c
    · simp [h0, h1, Nat.not_le.2 h1]
    · simp [h0, h1, Nat.le_of_not_lt h1, eq_comm]

theorem Range.tryFrom_error_iff {s c : Nat} (hc : c ≤ 65536) :
    (∃ e, Range.tryFrom s c = .error e) ↔ c = 0 ∨ 65536 < s + c := by
  rw [Range.tryFrom_eq hc]
  split
  · simp [*]
  · split <;> simp [*]

theorem Range.tryFrom_zero (s : Nat) : Range.tryFrom s 0 = .error .countOfZero := rfl

theorem Range.tryFrom_overflow {s c : Nat} (h0 : c ≠ 0) (hc : c ≤ 65536) (h : 65536 < s + c) :
    Range.tryFrom s c = .error .addressOverflow := by
  rw [Range.tryFrom_eq hc, if_neg h0, if_pos h]

theorem Range.tryFrom_ok {s c : Nat} (h0 : c ≠ 0) (h : s + c ≤ 65536) :
    Range.tryFrom s c = .ok ⟨s, c⟩ := by
  rw [Range.tryFrom_eq (by omega), if_neg h0, if_neg (by omega)]

theorem Range.tryFrom_ok_eq {s c : Nat} {r : Range} (h : Range.tryFrom s c = .ok r) :
    r = ⟨s, c⟩ ∧ c ≠ 0 := by
  unfold Range.tryFrom at h
  by_cases h0 : c = 0
  · simp [h0] at h
  · by_cases h1 : s > 65535 - (c - 1)
    · simp [h0, h1] at h
    · simp only [h0, h1, if_false] at h
      injection h with h; exact ⟨h.symm, h0⟩

/-- `try_from` followed by a limit check, as one arithmetic condition; no bound on `s` and `c` is
    needed because the limit, which fits a u16, bounds the count -/
theorem Range.tryFrom_limited {s c limit : Nat} (hl : limit ≤ 65536) (r : Range) :
    (∃ r0, Range.tryFrom s c = .ok r0 ∧ r0.limitedCount limit = .ok r) ↔
      (1 ≤ c ∧ c ≤ limit ∧ s + c ≤ 65536 ∧ r = ⟨s, c⟩) := by
  constructor
  · rintro ⟨r0, h1, h2⟩
    obtain ⟨rfl, h0⟩ := Range.tryFrom_ok_eq h1
    unfold Range.limitedCount at h2
    split at h2
    · cases h2
    · next hle =>
      cases h2
      have hc : c ≤ limit := Nat.not_lt.1 hle
      exact ⟨by omega, hc, ((Range.tryFrom_ok_iff (by omega) _).1 h1).2.1, rfl⟩
  · rintro ⟨h1, h2, h3, rfl⟩
    exact ⟨⟨s, c⟩, Range.tryFrom_ok (by omega) h3, if_neg (Nat.not_lt.2 h2)⟩

theorem Range.addresses_length (r : Range) : r.addresses.length = r.count := by
  simp [Range.addresses]

theorem Bytes.WF.getD_lt {bs : Bytes} (h : Bytes.WF bs) (k : Nat) : bs.getD k 0 < 256 := by
  rw [List.getD_eq_getElem?_getD]
  cases hk : bs[k]? with
  | none => decide
  | some b => exact h b (List.mem_of_getElem? hk)

theorem packByte_lt (l : List Bool) : packByte l < 2 ^ l.length := by
  induction l with
  | nil => simp [packByte]
  | cons b bs ih =>
    simp only [packByte, List.length_cons, Nat.pow_succ]
    split <;> omega

theorem packByte_bit (l : List Bool) (k : Nat) :
    (packByte l / 2 ^ k % 2 = 1) = (l.getD k false = true) := by
  induction l generalizing k with
  | nil => simp [packByte, Nat.zero_div]
  | cons b bs ih =>
    cases k with
    | zero => cases b <;> simp [packByte] <;> omega
    | succ k =>
      have : packByte (b :: bs) / 2 ^ (k + 1) = packByte bs / 2 ^ k := by
        rw [Nat.pow_succ, Nat.mul_comm, ← Nat.div_div_eq_div_mul]
        congr 1
        cases b <;> simp [packByte] <;> omega
      rw [this, ih k]; simp

theorem packByte_ext {l l' : List Bool} (h : ∀ k, l.getD k false = l'.getD k false) :
    packByte l = packByte l' :=
  Nat.eq_of_testBit_eq fun k => by
    simp only [Nat.testBit_eq_decide_div_mod_eq, packByte_bit, h]

theorem packByte_append (l : List Bool) (b : Bool) :
    packByte (l ++ [b]) = packByte l + if b then 2 ^ l.length else 0 := by
  induction l with
  | nil => cases b <;> rfl
  | cons a l ih =>
    simp only [List.cons_append, packByte, ih, List.length_cons, Nat.pow_succ]
    cases b <;> simp <;> omega

theorem packBits_nil : packBits [] = [] := by rw [packBits]; simp

theorem packBits_ne_nil {bits : List Bool} (h : bits ≠ []) :
    packBits bits = packByte (bits.take 8) :: packBits (bits.drop 8) := by
  rw [packBits]; simp [h]

theorem packBits_cons (b : Bool) (bs : List Bool) :
    packBits (b :: bs) = packByte ((b :: bs).take 8) :: packBits ((b :: bs).drop 8) :=
  packBits_ne_nil (List.cons_ne_nil b bs)

theorem packBits_length (bits : List Bool) :
    (packBits bits).length = numBytesForBits bits.length := by
  induction bits using packBits.induct with
  | case1 => simp [packBits_nil, numBytesForBits]
  | case2 bits h ih =>
    rw [packBits_ne_nil h, List.length_cons, ih, List.length_drop]
    have : bits.length ≠ 0 := by simpa using h
    unfold numBytesForBits; omega

theorem packBits_getD (bits : List Bool) (j : Nat) :
    (packBits bits).getD j 0 = packByte ((bits.drop (8 * j)).take 8) := by
  induction j generalizing bits with
  | zero =>
    by_cases h : bits = []
    · subst h; simp [packBits_nil, packByte]
    · rw [packBits_ne_nil h]; simp
  | succ j ih =>
    by_cases h : bits = []
    · subst h; simp [packBits_nil, packByte]
    · rw [packBits_ne_nil h, List.getD_cons_succ, ih, List.drop_drop]
      congr 3; omega

theorem getD_take_drop {α : Type} (l : List α) (i m k : Nat) (d : α) :
    ((l.drop i).take m).getD k d = if k < m then l.getD (i + k) d else d := by
  simp only [List.getD_eq_getElem?_getD, List.getElem?_take, List.getElem?_drop]
  split <;> rfl

theorem packBits_bit (bits : List Bool) (j k : Nat) (hk : k < 8) :
    ((packBits bits).getD j 0 / 2 ^ k % 2 = 1) = (bits.getD (8 * j + k) false = true) := by
  rw [packBits_getD, packByte_bit, getD_take_drop, if_pos hk]

theorem packBits_wf (bits : List Bool) : Bytes.WF (packBits bits) := by
  induction bits using packBits.induct with
  | case1 => simp [packBits_nil, Bytes.WF]
  | case2 bits h ih =>
    rw [packBits_ne_nil h]
    refine Bytes.WF_cons.2 ⟨?_, ih⟩
    have h1 := packByte_lt (bits.take 8)
    have h2 : (bits.take 8).length ≤ 8 := by simp [List.length_take]; omega
    have : 2 ^ (bits.take 8).length ≤ 2 ^ 8 := Nat.pow_le_pow_right (by decide) h2
    omega

/-- for every `i`: positions past the end (the zero padding of the last byte, and anything beyond)
    read as `false` -/
theorem bitAt_packBits (bits : List Bool) (i : Nat) :
    bitAt (packBits bits) i = bits.getD i false := by
  simp only [bitAt, packBits_bit _ _ _ (Nat.mod_lt i (by decide : 0 < 8)), Nat.div_add_mod,
    Bool.decide_eq_true]

theorem bitAt_packBits_padding (bits : List Bool) (i : Nat) (h : bits.length ≤ i) :
    bitAt (packBits bits) i = false := by
  rw [bitAt_packBits]; simp [List.getD_eq_getElem?_getD, List.getElem?_eq_none h]

theorem bitAt_packBits_lt (bits : List Bool) (i : Nat) (h : i < bits.length) :
    bitAt (packBits bits) i = bits[i] := by
  rw [bitAt_packBits]; simp [List.getD_eq_getElem?_getD, List.getElem?_eq_getElem h]

theorem unpackBits_packBits (bits : List Bool) : unpackBits (packBits bits) bits.length = bits := by
  apply List.ext_getElem
  · simp [unpackBits]
  · intro i h1 h2
    simp only [unpackBits, List.getElem_map, List.getElem_range]
    exact bitAt_packBits_lt bits i h2

theorem packRegs_nil : packRegs [] = [] := rfl

theorem packRegs_cons (v : Nat) (vs : List Nat) :
    packRegs (v :: vs) = v / 256 % 256 :: v % 256 :: packRegs vs := by
  simp [packRegs, u16be]

theorem packRegs_length (vs : List Nat) : (packRegs vs).length = 2 * vs.length := by
  induction vs with
  | nil => rfl
  | cons v vs ih =>
    rw [packRegs_cons, List.length_cons, List.length_cons, ih, List.length_cons, Nat.mul_add]

theorem packRegs_getD : ∀ (vs : List Nat) (i : Nat) (h : i < vs.length),
    (packRegs vs).getD (2 * i) 0 = vs[i] / 256 % 256 ∧ (packRegs vs).getD (2 * i + 1) 0 = vs[i] % 256
  | _ :: _, 0, _ => ⟨rfl, rfl⟩
  | v :: vs, i + 1, h => by
    have := packRegs_getD vs i (Nat.lt_of_succ_lt_succ h)
    rw [packRegs_cons]
    simpa only [Nat.mul_add, Nat.mul_one, List.getD_cons_succ, List.getElem_cons_succ] using this

theorem packRegs_wf (vs : List Nat) : Bytes.WF (packRegs vs) := by
  induction vs with
  | nil => exact Bytes.WF_nil
  | cons v vs ih =>
    rw [packRegs_cons]
    exact Bytes.WF_cons.2 ⟨Nat.mod_lt _ (by decide), Bytes.WF_cons.2 ⟨Nat.mod_lt _ (by decide), ih⟩⟩

theorem unpackRegs_packRegs (vs : List Nat) (h : ∀ v ∈ vs, v < 65536) :
    unpackRegs (packRegs vs) = vs := by
  induction vs with
  | nil => rfl
  | cons v vs ih =>
    rw [packRegs_cons, unpackRegs, ih (fun x hx => h x (List.mem_cons_of_mem _ hx))]
    have := h v (List.mem_cons_self ..)
    rw [be16_u16be this]

theorem unpackRegs_length : ∀ bs : Bytes, (unpackRegs bs).length = bs.length / 2
  | [] => rfl
  | [_] => by simp [unpackRegs]
  | _ :: _ :: rest => by
    rw [unpackRegs, List.length_cons, unpackRegs_length rest, List.length_cons, List.length_cons,
      Nat.add_assoc, Nat.add_div_right _ (by decide)]

theorem unpackRegs_getElem : ∀ (bs : Bytes) (i : Nat) (h : i < (unpackRegs bs).length),
    (unpackRegs bs)[i] = bs.getD (2 * i) 0 * 256 + bs.getD (2 * i + 1) 0
  | [], _, h => absurd h (Nat.not_lt_zero _)
  | [_], _, h => absurd h (by simp [unpackRegs])
  | _ :: _ :: _, 0, _ => rfl
  | _ :: _ :: rest, i + 1, h => by
    have := unpackRegs_getElem rest i (Nat.lt_of_succ_lt_succ h)
    simp only [unpackRegs, List.getElem_cons_succ, this, Nat.mul_add, Nat.mul_one,
      List.getD_cons_succ]

/-- `RegisterIterator` over exactly `2n` bytes, by position (the form to which `Spec.Server.u16At`
    and `Spec.Client.regOf` both unfold) -/
theorem unpackRegs_eq_range (payload : Bytes) (n : Nat) (h : payload.length = 2 * n) :
    unpackRegs payload
      = (List.range n).map fun i => payload.getD (2 * i) 0 * 256 + payload.getD (2 * i + 1) 0 := by
  apply List.ext_getElem
  · simp [unpackRegs_length, h]
  · intro i h1 _
    rw [unpackRegs_getElem, List.getElem_map, List.getElem_range]

theorem indexed_length {α : Type} (start : Nat) (vs : List α) : (indexed start vs).length = vs.length := by
  simp [indexed]

theorem indexed_getElem {α : Type} (start : Nat) (vs : List α) (i : Nat) (h : i < vs.length) :
    (indexed start vs)[i]'(by rw [indexed_length]; exact h) = (start + i, vs[i]) := by
  simp [indexed]

theorem indexed_indices {α : Type} (start : Nat) (vs : List α) :
    (indexed start vs).map Prod.fst = (List.range vs.length).map (start + ·) := by
  simp [indexed, List.map_map, Function.comp_def]
  apply List.ext_getElem <;> simp

/-- the if-cascade of `ExCode.ofByte` is a lookup among the nine named codes; `f` lets a user state
    it for whatever is computed from the code (its byte, its C name, …) -/
theorem ExCode.ofByte_lookup {α : Type} (f : ExCode → α) (b : Nat) :
    f (ExCode.ofByte b) =
      (List.lookup b [(1, f .illegalFunction), (2, f .illegalDataAddress), (3, f .illegalDataValue),
        (4, f .serverDeviceFailure), (5, f .acknowledge), (6, f .serverDeviceBusy),
        (8, f .memoryParityError), (10, f .gatewayPathUnavailable),
        (11, f .gatewayTargetDeviceFailedToRespond)]).getD (f (.unknown b)) := by
  by_cases h1 : b = 1; · subst h1; rfl
  by_cases h2 : b = 2; · subst h2; rfl
  by_cases h3 : b = 3; · subst h3; rfl
  by_cases h4 : b = 4; · subst h4; rfl
  by_cases h5 : b = 5; · subst h5; rfl
  by_cases h6 : b = 6; · subst h6; rfl
  by_cases h8 : b = 8; · subst h8; rfl
  by_cases h10 : b = 10; · subst h10; rfl
  by_cases h11 : b = 11; · subst h11; rfl
  simp only [ExCode.ofByte, List.lookup, beq_false_of_ne, ne_eq, not_false_eq_true, Option.getD_none,
    if_false, *]

theorem lookup_getD_self (l : List (Nat × Nat)) (h : ∀ p ∈ l, p.2 = p.1) (b : Nat) :
    (l.lookup b).getD b = b := by
  cases hl : l.lookup b with
  | none => rfl
  | some v =>
    obtain ⟨l₁, l₂, rfl, _⟩ := List.lookup_eq_some_iff.1 hl
    exact h (b, v) (by simp)

/-- `u8::from(ExceptionCode::from(b)) = b` for every `b`: a named code stands under its own byte,
    any other byte is kept in `unknown` -/
theorem ExCode.toByte_ofByte (b : Nat) : (ExCode.ofByte b).toByte = b := by
  rw [ExCode.ofByte_lookup ExCode.toByte]
  exact lookup_getD_self _ (by decide) b

def errOf {α : Type} : Except Nat α → Option Nat
  | .error e => some e
  | .ok _ => none

theorem errOf_eq_none {α : Type} (x : Except Nat α) : errOf x = none ↔ ∃ v, x = .ok v := by
  cases x <;> simp [errOf]

theorem errOf_eq_some {α : Type} (x : Except Nat α) (e : Nat) : errOf x = some e ↔ x = .error e := by
  cases x <;> simp [errOf]

/-- the first index below `n` at which `p` is defined, with the value there: the specification's
    `Spec.Server.firstFailure` with the getter and the start address abstracted away
    (`firstFailure_eq_firstErr`, Lemmas/Server.lean), so that the client side can use it too -/
def firstErr (p : Nat → Option Nat) (n : Nat) : Option (Nat × Nat) :=
  (List.range n).findSome? fun i => (p i).map (i, ·)

theorem firstErr_succ (p : Nat → Option Nat) (n : Nat) :
    firstErr p (n + 1) = (firstErr p n).or ((p n).map (n, ·)) := by
  simp [firstErr, List.range_succ]

theorem firstErr_eq_none {p : Nat → Option Nat} {n : Nat} (h : ∀ i < n, p i = none) :
    firstErr p n = none := by
  induction n with
  | zero => rfl
  | succ n ih => rw [firstErr_succ, ih fun i hi => h i (by omega), h n (by omega)]; rfl

theorem firstErr_eq_some {p : Nat → Option Nat} {n k e : Nat} (hk : k < n) (he : p k = some e)
    (hb : ∀ i < k, p i = none) : firstErr p n = some (k, e) := by
  induction n with
  | zero => omega
  | succ n ih =>
    rw [firstErr_succ]
    by_cases hkn : k < n
    · rw [ih hkn]; rfl
    · obtain rfl : k = n := by omega
      rw [firstErr_eq_none hb, he]; rfl

theorem firstErr_spec (p : Nat → Option Nat) (n : Nat) :
    match firstErr p n with
    | none => ∀ i < n, p i = none
    | some (k, e) => k < n ∧ p k = some e ∧ ∀ i < k, p i = none := by
  induction n with
  | zero => intro i hi; omega
  | succ n ih =>
    rw [firstErr_succ]
    cases hf : firstErr p n with
    | some q => rw [hf] at ih; exact ⟨by omega, ih.2⟩
    | none =>
      rw [hf] at ih
      cases hp : p n with
      | some e => exact ⟨by omega, hp, ih⟩
      | none =>
        intro i hi
        by_cases hin : i = n
        · rw [hin, hp]
        · exact ih i (by omega)

theorem readSeq_cons_ok {α : Type} {get : Nat → Except Nat α} {a : Nat} {v : α} (as : List Nat)
    (h : get a = .ok v) :
    readSeq get (a :: as) = (a :: (readSeq get as).1, (readSeq get as).2.map (v :: ·)) := by
  rw [readSeq, h]

theorem readSeq_cons_error {α : Type} {get : Nat → Except Nat α} {a e : Nat} (as : List Nat)
    (h : get a = .error e) : readSeq get (a :: as) = ([a], .error e) := by
  rw [readSeq, h]

theorem readSeq_snd {α : Type} (get : Nat → Except Nat α) (as : List Nat) :
    (readSeq get as).2 = as.mapM get := by
  induction as with
  | nil => rfl
  | cons a t ih =>
    rw [List.mapM_cons, ← ih]
    cases h : get a with
    | error e => rw [readSeq_cons_error t h]; rfl
    | ok v => rw [readSeq_cons_ok t h]; cases (readSeq get t).2 <;> rfl

theorem readSeq_of_ok {α : Type} {get : Nat → Except Nat α} {val : Nat → α} {as : List Nat}
    (h : ∀ a ∈ as, get a = .ok (val a)) : readSeq get as = (as, .ok (as.map val)) := by
  induction as with
  | nil => rfl
  | cons a as ih =>
    rw [readSeq_cons_ok as (h a (List.mem_cons_self ..)),
      ih fun b hb => h b (List.mem_cons_of_mem _ hb)]
    rfl

theorem readSeq_of_error {α : Type} {get : Nat → Except Nat α} {as : List Nat} {k e : Nat}
    (hk : k < as.length) (he : get as[k] = .error e)
    (hb : ∀ i (hi : i < k), ∃ v, get as[i] = .ok v) :
    readSeq get as = (as.take (k + 1), .error e) := by
  induction as generalizing k with
  | nil => cases hk
  | cons a as ih =>
    cases k with
    | zero => exact readSeq_cons_error as he
    | succ k =>
      obtain ⟨v, (hv : get a = .ok v)⟩ := hb 0 (by omega)
      rw [readSeq_cons_ok as hv,
        ih (Nat.lt_of_succ_lt_succ hk) he fun i hi => hb (i + 1) (by omega)]
      rfl

/-- over the addresses of a range, with the hypotheses in the form `firstErr_spec` gives them -/
theorem readSeq_range_of_error {α : Type} {get : Nat → Except Nat α} {s n k e : Nat} (hk : k < n)
    (he : errOf (get (s + k)) = some e) (hb : ∀ i < k, errOf (get (s + i)) = none) :
    readSeq get ((List.range n).map (s + ·)) = ((List.range (k + 1)).map (s + ·), .error e) := by
  rw [readSeq_of_error (k := k) (e := e) (by simpa using hk) (by simpa [errOf_eq_some] using he)
    fun i hi => by simpa [errOf_eq_none] using hb i hi]
  rw [← List.map_take, List.take_range, Nat.min_eq_left hk]

end Rodbus
