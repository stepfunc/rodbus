import RodbusModel.Lemmas.Lifecycle
/-
  Single calls of `advance` and `stop` computed, for the scenario statements of Props/C13: a
  stretch of commands that a phase consumes without leaving it (`advance_passes`), a user action
  that ends a session (`stop_session_end`), the reconnect loop (`reconnect_loop_fails`), a silent
  peer (`advance_silent_below`, `advance_silent_limit`).
-/
namespace Rodbus.Life
open Rodbus.Spec.Life

theorem foldl_applyAction_frame (acts : List Action) (s : S) :
    ∃ l q h, acts.foldl applyAction s = { s with log := l, queue := q, handles := h } :=
  List.foldlRecOn (motive := fun t : S => ∃ l q h, t = { s with log := l, queue := q, handles := h })
    acts _ ⟨s.log, s.queue, s.handles, rfl⟩ fun t ⟨l, q, h, ht⟩ a _ => by
      subst ht
      unfold applyAction
      split
      · exact ⟨l, q, h, rfl⟩
      · cases a <;> exact ⟨_, _, _, rfl⟩

/-- commands that do not change the channel state while it is enabled -/
def benign : Cmd → Bool
  | .request _ | .enable | .decode _ => true
  | _ => false

/-- commands that do not change the channel state while it is disabled -/
def inert : Cmd → Bool
  | .request _ | .disable | .decode _ => true
  | _ => false

/-- the decode level after a consumed stretch of the queue: the last `DecodeLevel` setting wins -/
def decodeAfter (d : Nat) : List Cmd → Nat
  | [] => d
  | .decode l :: q => decodeAfter l q
  | _ :: q => decodeAfter d q

@[simp] theorem decodeAfter_nil (d : Nat) : decodeAfter d [] = d := rfl
@[simp] theorem decodeAfter_decode (d l : Nat) (q : List Cmd) :
    decodeAfter d (.decode l :: q) = decodeAfter l q := rfl
@[simp] theorem decodeAfter_request (d id : Nat) (q : List Cmd) :
    decodeAfter d (.request id :: q) = decodeAfter d q := rfl
@[simp] theorem decodeAfter_enable (d : Nat) (q : List Cmd) :
    decodeAfter d (.enable :: q) = decodeAfter d q := rfl
@[simp] theorem decodeAfter_disable (d : Nat) (q : List Cmd) :
    decodeAfter d (.disable :: q) = decodeAfter d q := rfl
@[simp] theorem decodeAfter_shutdown (d : Nat) (q : List Cmd) :
    decodeAfter d (.shutdown :: q) = decodeAfter d q := rfl

theorem decodeAfter_requests (d : Nat) (ids : List Nat) :
    decodeAfter d (ids.map Cmd.request) = d := by
  induction ids with
  | nil => rfl
  | cons i ids ih => simpa using ih

/-- commands a phase consumes without leaving it -/
def passes : Phase → Cmd → Bool
  | .connect, c | .failFor, c => benign c
  | .waitEnabled, c => inert c
  | _, _ => false

theorem step_passes (ph : Phase) (c : Cmd) (q : List Cmd) (s : S) (hc : passes ph c = true)
    (he : ph = .waitEnabled → s.enabled = false) (hq : s.queue = c :: q) :
    step ph s = .cont ph { s with queue := q, log := s.log ++ noconnEvents [c],
                                  decode := decodeAfter s.decode [c] } := by
  cases ph <;> cases c <;> simp [passes, benign, inert] at hc <;>
    simp [step, hq, he, S.emit]

theorem advance_passes (ph : Phase) :
    ∀ (pre rest : List Cmd) (s : S) (k : Nat), (∀ c ∈ pre, passes ph c = true) →
      (ph = .waitEnabled → s.enabled = false) → s.queue = pre ++ rest →
      advance (pre.length + k) ph s =
        advance k ph { s with queue := rest, log := s.log ++ noconnEvents pre,
                              decode := decodeAfter s.decode pre } := by
  intro pre
  induction pre with
  | nil =>
    intro rest s k _ _ hq
    simp only [List.nil_append] at hq
    subst hq
    simp
  | cons c pre ih =>
    intro rest s k hb he hq
    rw [show (c :: pre).length + k = (pre.length + k) + 1 by simp only [List.length_cons]; omega,
      advance_succ, step_passes ph c (pre ++ rest) s (hb c (by simp)) he hq, Res.fin,
      ih rest _ k (fun c hc => hb c (by simp [hc])) (by exact he) (by rfl)]
    cases c <;> simp

theorem benign_split (q : List Cmd) :
    (∀ c ∈ q, benign c = true) ∨
    ∃ pre c rest, q = pre ++ c :: rest ∧ (∀ x ∈ pre, benign x = true) ∧
      (c = .disable ∨ c = .shutdown) := by
  induction q with
  | nil => exact .inl nofun
  | cons c q ih =>
    cases hc : benign c with
    | false =>
      exact .inr ⟨[], c, q, rfl, nofun, by cases c <;> first | exact .inl rfl | exact .inr rfl | cases hc⟩
    | true =>
      rcases ih with h | ⟨pre, c', rest, rfl, h2, h3⟩
      · exact .inl (List.forall_mem_cons.2 ⟨hc, h⟩)
      · exact .inr ⟨c :: pre, c', rest, rfl, List.forall_mem_cons.2 ⟨hc, h2⟩, h3⟩

/-- the strategy object after `k` consecutive failed connects -/
def retryAfter : Retry.Doubling → Nat → Retry.Doubling
  | d, 0 => d
  | d, k + 1 => retryAfter (Retry.afterFailedConnect d).2 k

theorem retryAfter_min_max (k : Nat) : ∀ d, (retryAfter d k).min = d.min ∧ (retryAfter d k).max = d.max := by
  induction k with
  | zero => intro d; exact ⟨rfl, rfl⟩
  | succ k ih => intro d; simpa [retryAfter, Retry.afterFailedConnect] using ih (Retry.afterFailedConnect d).2

/-- the events the listener sees for a run of failed attempts with the given delays -/
def failEvents (ds : List Nat) : List St := ds.flatMap fun d => [.connecting, .waitFail d]

theorem advance_waitEnabled_enabled (f : Nat) (s : S) (he : s.enabled = true) :
    advance (f + 1) .waitEnabled s =
      ({ (nextBehaviour s).2 with cur := (nextBehaviour s).1 }, .gate .connecting .connect) := by
  simp [advance_succ, step, he, Res.fin]

theorem stop_connect_refused (s : S) (hq : s.queue = []) (hh : s.handles = true)
    (hc : s.cur.fails = true) (hu : s.unreported = false) :
    stop s (.gate .connecting .connect) [] =
      ({ s with log := s.log ++ [.gate .connecting], retry := (Retry.afterFailedConnect s.retry).2 },
        .gate (.waitFail (Retry.afterFailedConnect s.retry).1) .failFor) := by
  simp [stop, fuelFor_succ, advance_succ, step, hq, hh, hc, Res.fin, S.emit, report_of_false s hu]

theorem stop_connect_accepted (s : S) (hq : s.queue = []) (hh : s.handles = true)
    (hc : s.cur.fails = false) (hu : s.unreported = false) :
    stop s (.gate .connecting .connect) [] =
      ({ s with log := s.log ++ [.gate .connecting], conn := true },
        .gate .connected (.sessionStart s.cur)) := by
  simp [stop, fuelFor_succ, advance_succ, step, hq, hh, hc, Res.fin, S.emit, report_of_false s hu]

theorem stop_failFor_timer (s : S) (st : St) (hq : s.queue = []) (hh : s.handles = true)
    (hu : s.unreported = false) :
    stop s (.gate st .failFor) [] = advance 7 .waitEnabled (s.emit (.gate st)) := by
  simp only [stop, List.foldl_nil, report_of_false s hu]
  rw [show fuelFor (s.emit (.gate st)) = 7 + 1 by simp [fuelFor, hq], advance_succ]
  simp [step, hq, hh, Res.fin]

def endsSession : Action → Bool
  | .disable | .shutdown | .dropAll => true
  | _ => false

def gateAfter (a : Action) : Pos :=
  .gate (if a = .disable then .disabled else .shutdown) (if a = .disable then .waitEnabled else .finished)

theorem stop_session_end (a : Action) (ha : endsSession a = true) (b : Behaviour)
    (hb : b.fails = false) (s : S) (hg : b.gone s.served = false) (hq : s.queue = [])
    (hh : s.handles = true) :
    stop s (.idle (.session b)) [a] =
      ({ s with log := s.log ++ [.idle, .act a], conn := false, unreported := true,
                enabled := if a = .disable then false else s.enabled,
                handles := if a = .dropAll then false else s.handles },
        gateAfter a) := by
  cases a <;> simp [endsSession] at ha <;>
    simp [stop, applyAction, hh, hq, fuelFor, advance_succ, step, Res.fin, S.emit, S.closeConn,
      hb, hg, gateAfter]

theorem nextBehaviour_single (s : S) (b : Behaviour) (h : s.behaviours = [b]) :
    nextBehaviour s = (b, s) := by
  simp [nextBehaviour, h]

theorem nextBehaviour_cons2 (s : S) (b x : Behaviour) (t : List Behaviour)
    (h : s.behaviours = b :: x :: t) :
    nextBehaviour s = (b, { s with behaviours := x :: t }) := by
  simp [nextBehaviour, h]

/-- the reconnect loop: a stretch `fs` of failing attempts (refused connects and failed
    handshakes, in any order), then an accepted one, with nothing else going on -/
theorem reconnect_loop_fails (b : Behaviour) (hb : b.fails = false) (fs : List Behaviour) :
    ∀ (s : S) (f : Nat), s.enabled = true → s.queue = [] → s.handles = true →
      s.unreported = false → (∀ x ∈ fs, x.fails = true) → s.behaviours = fs ++ [b] →
      ∃ s', runStops (advance (f + 1) .waitEnabled s).1 (advance (f + 1) .waitEnabled s).2
          (List.replicate (2 * fs.length + 1) []) = (s', .gate .connected (.sessionStart b)) ∧
        states s'.log =
          states s.log ++ failEvents (Retry.failures s.retry fs.length) ++ [.connecting] ∧
        s'.retry = retryAfter s.retry fs.length := by
  induction fs with
  | nil =>
    intro s f he hq hh hu _ hbs
    rw [advance_waitEnabled_enabled f s he, nextBehaviour_single s b hbs]
    rw [show List.replicate (2 * ([] : List Behaviour).length + 1) ([] : List Action) = [[]] from rfl,
      runStops_cons, stop_connect_accepted { s with cur := b } hq hh hb hu]
    exact ⟨_, rfl, by simp [failEvents, Retry.failures], rfl⟩
  | cons x0 fs ih =>
    intro s f he hq hh hu hfs hbs
    obtain ⟨x, t, ht⟩ : ∃ x t, fs ++ [b] = x :: t := by cases fs <;> exact ⟨_, _, rfl⟩
    -- one round: `Connecting`, the attempt fails, the wait state, the timer fires
    obtain ⟨s', h, h1, h2⟩ := ih
      { s with behaviours := x :: t, cur := x0, retry := (Retry.afterFailedConnect s.retry).2,
               log := s.log ++ [.gate .connecting] ++
                 [.gate (.waitFail (Retry.afterFailedConnect s.retry).1)] }
      6 he hq hh hu (fun x hx => hfs x (by simp [hx])) ht.symm
    refine ⟨s', ?_, ?_, ?_⟩
    · rw [← h, advance_waitEnabled_enabled f s he,
        nextBehaviour_cons2 s x0 x t (by rw [hbs, List.cons_append, ht]),
        show List.replicate (2 * (x0 :: fs).length + 1) ([] : List Action) =
          [] :: [] :: List.replicate (2 * fs.length + 1) [] from rfl,
        runStops_cons, runStops_cons,
        stop_connect_refused { s with behaviours := x :: t, cur := x0 } hq hh (hfs x0 (by simp)) hu,
        stop_failFor_timer _ _ (by exact hq) (by exact hh) (by exact hu)]
      rfl
    · rw [h1]
      simp [failEvents, Retry.failures, states]
    · rw [h2]
      rfl

/-- the reconnect loop with `k` refused attempts -/
theorem reconnect_loop (b : Behaviour) (hb : b.fails = false) (k : Nat) :
    ∀ (s : S) (f : Nat), s.enabled = true → s.queue = [] → s.handles = true →
      s.unreported = false →
      s.behaviours = List.replicate k .refuse ++ [b] →
      (runStops (advance (f + 1) .waitEnabled s).1 (advance (f + 1) .waitEnabled s).2
          (List.replicate (2 * k + 1) [])).2 = .gate .connected (.sessionStart b) ∧
      states (runStops (advance (f + 1) .waitEnabled s).1 (advance (f + 1) .waitEnabled s).2
          (List.replicate (2 * k + 1) [])).1.log =
        states s.log ++ failEvents (Retry.failures s.retry k) ++ [.connecting] ∧
      (runStops (advance (f + 1) .waitEnabled s).1 (advance (f + 1) .waitEnabled s).2
          (List.replicate (2 * k + 1) [])).1.retry = retryAfter s.retry k := by
  intro s f he hq hh hu hbs
  obtain ⟨s', h, h1, h2⟩ := reconnect_loop_fails b hb (List.replicate k .refuse) s f he hq hh hu
    (fun x hx => by rw [List.eq_of_mem_replicate hx]; rfl) hbs
  rw [List.length_replicate] at h h1 h2
  rw [h]
  exact ⟨rfl, h1, h2⟩

/-- the completions of a stretch of requests that all time out -/
def timeoutEvents (ids : List Nat) : List Ev := ids.map fun id => .done id "timeout"

theorem advance_silent_below :
    ∀ (ids : List Nat) (rest : List Cmd) (s : S) (k : Nat),
      s.queue = ids.map Cmd.request ++ rest →
      (s.maxto = 0 ∨ s.tcount + ids.length < s.maxto) →
      advance (ids.length + k) (.session .silent) s =
        advance k (.session .silent)
          { s with queue := rest, tcount := s.tcount + ids.length,
                   log := s.log ++ timeoutEvents ids } := by
  intro ids
  induction ids with
  | nil =>
    intro rest s k hq _
    simp only [List.map_nil, List.nil_append] at hq
    subst hq
    simp [timeoutEvents]
  | cons id ids ih =>
    intro rest s k hq hlim
    have hlen : (id :: ids).length + k = (ids.length + k) + 1 := by simp; omega
    simp only [List.map_cons, List.cons_append] at hq
    have hno : ¬(s.maxto ≠ 0 ∧ s.tcount + 1 ≥ s.maxto) := by
      simp only [List.length_cons] at hlim
      omega
    rw [hlen, advance_succ]
    simp only [step, hq, Res.fin, hno, ↓reduceIte, fails_silent, gone_silent, Bool.false_eq_true]
    rw [ih rest _ k (by simp) (by simp only [emit_maxto, emit_tcount, List.length_cons] at *; omega)]
    simp [S.emit, timeoutEvents, Nat.add_assoc, Nat.add_comm 1]

theorem advance_silent_limit (id : Nat) (rest : List Cmd) (s : S) (k : Nat)
    (hq : s.queue = .request id :: rest) (h0 : s.maxto ≠ 0) (hlim : s.tcount + 1 ≥ s.maxto) :
    advance (k + 1) (.session .silent) s =
      ({ s with queue := rest, tcount := s.tcount + 1, log := s.log ++ [.done id "timeout"],
                conn := false, unreported := true },
        .gate (.waitDisc (Retry.afterDisconnect s.retry)) .failFor) := by
  have hyes : s.maxto ≠ 0 ∧ s.tcount + 1 ≥ s.maxto := ⟨h0, hlim⟩
  rw [advance_succ]
  simp [step, hq, Res.fin, hyes, S.emit, S.closeConn]

end Rodbus.Life
