import RodbusModel.Lemmas.ClientRunInv
/-
  The abstract view of the client task model: `core` projects a state onto the fields the
  properties talk about; `TEff` and `UEff` list what a tick of the task or the clock, and what a
  script step, can do to them.  Every state of every script is `Reach`able through these.

  `TEff` and `UEff` forget guards (`TEff.send` carries arbitrary `bytes`, `TEff.finish` bounds `res`
  only negatively).  An invariant they preserve all the same is a case analysis on them: over whole
  runs by `Reach.induct` with `runState_reach`, for the tasks and the clock alone by
  `TaskInv.of_core`.  One that needs a guard or a field outside `Core` is a view of `Tick`/`Applied`
  or an instance of `Blocks` (Lemmas/ClientRunInv).
-/
namespace Rodbus.Client

/-- control state and histories, the part of `State` the run-level properties speak of.  Left out:
    the reader (`pst`, `rb`), transports, coins, handles and `held`, `enabled`, `decode`, the queued
    phases, `cap`, `waited`; where an effect depends on them, its constructor in `TEff`/`UEff` has a
    free parameter instead -/
structure Core where
  log : List LogEntry
  queue : List Cmd
  pos : Pos
  accepted : List Rid
  tx : Nat
  dequeued : List (Rid × Nat)
  sent : List (Rid × Nat × Bytes)
  nto : Nat
  alive : Bool
  now : Nat
  maxTo : Nat

def core {σ : Type} (s : State σ) : Core :=
  ⟨s.log, s.queue, s.pos, s.accepted, s.tx, s.dequeued, s.sent, s.nto, s.alive, s.now, s.maxTo⟩

/-- the model's `inflightReqs` as a function of the position (`inflightReqs_eq`) -/
def inflightReqsOf : Pos → List Req
  | .inflight _ r _ _ => [r]
  | _ => []

/-- the ids of the completions in a log, newest first -/
def doneIds : List LogEntry → List Rid
  | [] => []
  | .done rid _ _ _ :: es => rid :: doneIds es
  | _ :: es => doneIds es

/-- the ids of the queued requests, oldest first -/
def queueIds (q : List Cmd) : List Rid := (reqsOf q).map (·.rid)

def doneEntry (c : Core) (r : Req) (res : Res) : LogEntry := .done r.rid r.style res c.now

/-- `afterRequest` on the abstract view -/
def afterCore (c : Core) (m : Nat) (res : Res) : Core :=
  match res.sessionEnd with
  | some k => { c with log := .fin k c.now :: c.log, pos := .noPhase }
  | none =>
    if res = .timeout then
      if c.maxTo = 0 then { c with pos := .idle m }
      else if c.nto + 1 ≥ c.maxTo then
        { c with nto := c.nto + 1, log := .fin (.maxTo c.maxTo) c.now :: c.log, pos := .noPhase }
      else { c with nto := c.nto + 1, pos := .idle m }
    else { c with nto := 0, pos := .idle m }

/-- `afterCore`, exactly: a session error ends the phase; a timeout counts (if there is a limit)
    and ends the phase when the limit is reached; any other outcome restarts the count -/
theorem afterCore_cases (c : Core) (m : Nat) (res : Res) :
    (∃ k, res.sessionEnd = some k
        ∧ afterCore c m res = { c with log := .fin k c.now :: c.log, pos := .noPhase })
      ∨ (res = .timeout ∧ c.maxTo = 0 ∧ afterCore c m res = { c with pos := .idle m })
      ∨ (res = .timeout ∧ c.maxTo ≠ 0 ∧ c.maxTo ≤ c.nto + 1
          ∧ afterCore c m res = { c with nto := c.nto + 1,
                                         log := .fin (.maxTo c.maxTo) c.now :: c.log,
                                         pos := .noPhase })
      ∨ (res = .timeout ∧ c.maxTo ≠ 0 ∧ c.nto + 1 < c.maxTo
          ∧ afterCore c m res = { c with nto := c.nto + 1, pos := .idle m })
      ∨ (res.sessionEnd = none ∧ res ≠ .timeout
          ∧ afterCore c m res = { c with nto := 0, pos := .idle m }) := by
  unfold afterCore
  cases hk : res.sessionEnd with
  | some k => exact .inl ⟨k, rfl, rfl⟩
  | none =>
    refine .inr ?_
    by_cases ht : res = .timeout
    · by_cases h0 : c.maxTo = 0
      · exact .inl ⟨ht, h0, by rw [if_pos ht, if_pos h0]⟩
      · by_cases h1 : c.nto + 1 ≥ c.maxTo
        · exact .inr (.inl ⟨ht, h0, h1, by rw [if_pos ht, if_neg h0, if_pos h1]⟩)
        · exact .inr (.inr (.inl ⟨ht, h0, Nat.lt_of_not_ge h1,
            by rw [if_pos ht, if_neg h0, if_neg h1]⟩))
    · exact .inr (.inr (.inr ⟨rfl, ht, by rw [if_neg ht]⟩))

/-- what `afterCore` leaves alone, as a simp set: `simp only [afterCore_parts]` rewrites with each
    conjunct -/
theorem afterCore_parts (c : Core) (m : Nat) (res : Res) :
    doneIds (afterCore c m res).log = doneIds c.log ∧ (afterCore c m res).queue = c.queue
      ∧ inflightIds (afterCore c m res).pos = [] ∧ (afterCore c m res).accepted = c.accepted
      ∧ (afterCore c m res).tx = c.tx ∧ (afterCore c m res).dequeued = c.dequeued
      ∧ (afterCore c m res).sent = c.sent ∧ (afterCore c m res).alive = c.alive
      ∧ (afterCore c m res).now = c.now ∧ (afterCore c m res).maxTo = c.maxTo := by
  rcases afterCore_cases c m res with ⟨k, _, h⟩ | ⟨_, _, h⟩ | ⟨_, _, _, h⟩ | ⟨_, _, _, h⟩
      | ⟨_, _, h⟩ <;> rw [h] <;> exact ⟨rfl, rfl, rfl, rfl, rfl, rfl, rfl, rfl, rfl, rfl⟩

theorem afterCore_log (c : Core) (m : Nat) (res : Res) :
    ∃ fin, (fin = [] ∨ ∃ k, fin = [.fin k c.now]) ∧ (afterCore c m res).log = fin ++ c.log := by
  rcases afterCore_cases c m res with ⟨k, _, h⟩ | ⟨_, _, h⟩ | ⟨_, _, _, h⟩ | ⟨_, _, _, h⟩
      | ⟨_, _, h⟩ <;> rw [h]
  · exact ⟨[_], .inr ⟨_, rfl⟩, rfl⟩
  · exact ⟨[], .inl rfl, rfl⟩
  · exact ⟨[_], .inr ⟨_, rfl⟩, rfl⟩
  · exact ⟨[], .inl rfl, rfl⟩
  · exact ⟨[], .inl rfl, rfl⟩

theorem afterCore_sessionEnd (c : Core) (m : Nat) {res : Res} {k : EndKind}
    (h : res.sessionEnd = some k) :
    afterCore c m res = { c with log := .fin k c.now :: c.log, pos := .noPhase } := by
  unfold afterCore; rw [h]

/-- `nextTimer` on the abstract view -/
def Core.timer (c : Core) : Option Nat :=
  if !c.alive then none
  else match c.pos with
    | .inflight _ _ _ dl => some dl
    | .failFor dl _ => some dl
    | _ => none

/-- the completions logged when the task is dropped: the request in flight, then the queue -/
def shutdownEntries (c : Core) (rs : List Req) : List LogEntry :=
  (rs.map fun r => doneEntry c r .shutdown).reverse

/-- what the outer task (one tick) or the clock can do to the abstract view -/
inductive TEff : Core → Core → Prop
  /-- reader progress, a dropped or skipped frame, scheduler bookkeeping, handles, transports,
      queued phases -/
  | quiet (c : Core) : TEff c c
  | commit (c : Core) (dl : Nat) : c.alive = true → c.pos = .failFor dl false →
      TEff c { c with pos := .failFor dl true }
  | startSession (c : Core) (m : Nat) : c.alive = true → c.pos = .noPhase →
      TEff c { c with pos := .idle m, nto := 0 }
  | startWait (c : Core) : c.alive = true → c.pos = .noPhase → TEff c { c with pos := .waitEnabled }
  | startFail (c : Core) (ms : Nat) : c.alive = true → c.pos = .noPhase →
      TEff c { c with pos := .failFor (c.now + ms) false }
  /-- a phase ends without a command having been taken -/
  | phaseEnd (c : Core) (k : EndKind) : c.alive = true → inflightIds c.pos = [] →
      c.pos ≠ .noPhase → TEff c { c with pos := .noPhase, log := .fin k c.now :: c.log }
  /-- a phase ends on a setting or the shutdown command -/
  | phaseEndCmd (c : Core) (k : EndKind) (x : Cmd) (q : List Cmd) : c.alive = true →
      inflightIds c.pos = [] → c.pos ≠ .noPhase → c.queue = x :: q → x.isReq = false →
      TEff c { c with pos := .noPhase, log := .fin k c.now :: c.log, queue := q }
  | setting (c : Core) (x : Cmd) (q : List Cmd) : c.alive = true → inflightIds c.pos = [] →
      c.pos ≠ .noPhase → c.queue = x :: q → x.isReq = false → TEff c { c with queue := q }
  /-- `fail_next_request` -/
  | noConn (c : Core) (r : Req) (q : List Cmd) : c.alive = true →
      (c.pos = .waitEnabled ∨ ∃ dl b, c.pos = .failFor dl b) → c.queue = .req r :: q →
      TEff c { c with queue := q, log := doneEntry c r .noConn :: c.log }
  /-- a request is taken from the queue and written -/
  | send (c : Core) (m : Nat) (r : Req) (q : List Cmd) (bytes : Bytes) (logged : Bool) :
      c.alive = true → c.pos = .idle m → c.queue = .req r :: q →
      TEff c { c with queue := q, tx := nextTx c.tx, dequeued := (r.rid, c.tx) :: c.dequeued,
                      sent := (r.rid, c.tx, bytes) :: c.sent,
                      pos := .inflight m r c.tx (c.now + r.timeout),
                      log := if logged then .tx bytes :: c.log else c.log }
  /-- a request is taken from the queue but cannot be encoded, the bytes buffered before it are
      malformed, or it cannot be written -/
  | dequeueFail (c : Core) (m : Nat) (r : Req) (q : List Cmd) (res : Res) :
      c.alive = true → c.pos = .idle m → c.queue = .req r :: q →
      ((∃ e, res = .badReq e) ∨ res = .io .pipe ∨ (∃ e, res = frameErrRes e)) →
      TEff c (afterCore { c with queue := q, tx := nextTx c.tx,
                                 dequeued := (r.rid, c.tx) :: c.dequeued,
                                 log := doneEntry c r res :: c.log } m res)
  /-- the request in flight completes -/
  | finish (c : Core) (m : Nat) (r : Req) (tx dl : Nat) (res : Res) :
      c.alive = true → c.pos = .inflight m r tx dl → (res = .timeout → dl ≤ c.now) →
      res ≠ .noConn → res ≠ .shutdown →
      TEff c (afterCore { c with log := doneEntry c r res :: c.log } m res)
  /-- the clock moves, not past a timer -/
  | time (c : Core) (t : Nat) : c.now ≤ t → (∀ dl, c.timer = some dl → c.now ≤ dl → t ≤ dl) →
      TEff c { c with now := t }

/-- what a script step does to the abstract view before the tasks run -/
inductive UEff : Core → Core → Prop
  | quiet (c : Core) : UEff c c
  /-- something that is not a completion is logged -/
  | note (c : Core) (e : LogEntry) : e.isDone = false → UEff c { c with log := e :: c.log }
  /-- a submission is accepted and completed at once (possibly followed by a `sub` entry) -/
  | acceptDone (c : Core) (r : Req) (res : Res) (extra : List LogEntry) :
      (∀ e ∈ extra, e.isDone = false) →
      (res = .shutdown ∨ ∃ e, res = .badReq e) →
      UEff c { c with accepted := r.rid :: c.accepted,
                      log := extra ++ doneEntry c r res :: c.log }
  | acceptQueue (c : Core) (r : Req) : c.alive = true →
      UEff c { c with accepted := r.rid :: c.accepted, queue := c.queue ++ [.req r] }
  | enqueueCmd (c : Core) (x : Cmd) : c.alive = true → x.isReq = false →
      UEff c { c with queue := c.queue ++ [x] }
  /-- the outer task is dropped -/
  | abort (c : Core) : c.alive = true →
      UEff c { c with alive := false, queue := [], pos := .noPhase,
                      log := shutdownEntries c (inflightReqsOf c.pos ++ reqsOf c.queue) ++ c.log }

def Eff (c c' : Core) : Prop := TEff c c' ∨ UEff c c'

inductive Star (R : Core → Core → Prop) : Core → Core → Prop
  | refl (c : Core) : Star R c c
  | tail {a b c : Core} : Star R a b → R b c → Star R a c

theorem Star.single {R : Core → Core → Prop} {a b : Core} (h : R a b) : Star R a b :=
  .tail (.refl a) h

theorem Star.trans {R : Core → Core → Prop} {a b c : Core} (h1 : Star R a b) (h2 : Star R b c) :
    Star R a c := by
  induction h2 with
  | refl => exact h1
  | tail _ e ih => exact .tail ih e

abbrev Steps := Star Eff

def Core.init (maxTo : Nat) : Core := ⟨[], [], .noPhase, [], 0, [], [], 0, true, 0, maxTo⟩

def Reach (c : Core) : Prop := ∃ maxTo, Steps (Core.init maxTo) c

theorem Reach.induct {P : Core → Prop} (h0 : ∀ m, P (Core.init m))
    (ht : ∀ c c', P c → TEff c c' → P c') (hu : ∀ c c', P c → UEff c c' → P c') :
    ∀ c, Reach c → P c := by
  intro c ⟨m, hs⟩
  induction hs with
  | refl => exact h0 m
  | tail _ e ih =>
    cases e with
    | inl e => exact ht _ _ ih e
    | inr e => exact hu _ _ ih e

theorem reach_steps {c c' : Core} (h : Reach c) (hs : Steps c c') : Reach c' := by
  obtain ⟨m, h0⟩ := h
  exact ⟨m, h0.trans hs⟩

section
variable {σ : Type}

theorem inflightReqs_eq (s : State σ) : inflightReqs s = inflightReqsOf s.pos := by
  unfold inflightReqs inflightReqsOf; cases s.pos <;> rfl

theorem shutdownEntries_core (s : State σ) (rs : List Req) :
    shutdownEntries (core s) rs = doneEntries s .shutdown rs := rfl

@[simp] theorem core_emit (s : State σ) (e : LogEntry) :
    core (emit s e) = { core s with log := e :: s.log } := rfl

@[simp] theorem core_complete (s : State σ) (r : Req) (res : Res) :
    core (complete s r res) = { core s with log := doneEntry (core s) r res :: s.log } := rfl

@[simp] theorem core_endPhase (s : State σ) (k : EndKind) :
    core (endPhase s k)
      = { core s with log := .fin k (core s).now :: (core s).log, pos := .noPhase } := rfl

@[simp] theorem core_accept (s : State σ) (rid : Rid) :
    core (accept s rid) = { core s with accepted := rid :: s.accepted } := rfl

@[simp] theorem core_enqueue (s : State σ) (c : Cmd) :
    core (enqueue s c) = { core s with queue := s.queue ++ [c] } := rfl

@[simp] theorem core_applySetting (s : State σ) (c : Cmd) : core (applySetting s c) = core s := by
  cases c <;> rfl

@[simp] theorem core_flip (s : State σ) : core (flip s).2 = core s := by
  obtain ⟨cs, h⟩ := flip_writes s; rw [h]; rfl

@[simp] theorem core_setMock (s : State σ) (m : Nat) (k : Mock) : core (setMock s m k) = core s :=
  rfl

@[simp] theorem core_pollReader (F : Framing σ) (s : State σ) (m : Nat) :
    core (pollReader F s m).2 = core s := by
  obtain ⟨_, _, _, h⟩ := pollReader_writes F s m; rw [h]; rfl

theorem core_afterRequest (s : State σ) (m : Nat) (res : Res) :
    core (afterRequest s m res) = afterCore (core s) m res := by
  unfold afterRequest afterCore
  cases res.sessionEnd with
  | some k => rfl
  | none => simp only [apply_ite core]; rfl

theorem core_finish (s : State σ) (m : Nat) (r : Req) (res : Res) :
    core (finish s m r res)
      = afterCore { core s with log := doneEntry (core s) r res :: (core s).log } m res := by
  unfold finish; rw [core_afterRequest, core_complete]; rfl

variable {F : Framing σ} {s x t : State σ} {m : Nat}

theorem Pre.core (hx : Pre F s x) : core x = core s := by
  obtain ⟨_, _, _, _, rfl⟩ := hx.writes; rfl

theorem StartFail.core {r : Req} {y : State σ} {res : Res} (h : StartFail F x m r y res) :
    core y = { core x with tx := nextTx x.tx, dequeued := (r.rid, x.tx) :: x.dequeued } := by
  obtain ⟨_, _, _, rfl⟩ := h.writes; rfl

theorem FinishCause.teff {q : Req} {tx dl : Nat} {res : Res} (h : FinishCause F s m q tx dl res) :
    (res = .timeout → dl ≤ s.now) ∧ res ≠ .noConn ∧ res ≠ .shutdown := by
  have of : ReaderRes res → (res = .timeout → dl ≤ s.now) ∧ res ≠ .noConn ∧ res ≠ .shutdown :=
    fun h => ⟨fun e => absurd e h.2.2, h.1, h.2.1⟩
  cases h with
  | timeout hd => exact ⟨fun _ => hd, by simp, by simp⟩
  | frame f hr hm => exact of (respResult_ne q.req f.pdu).1
  | readErr res hr => exact of (pollReader_fail F s m res hr)

/-- one tick of the outer task is one abstract effect.  The state `x` in which the control decision
    is taken is `s` up to the reader and the coins (`Pre.writes`), which the abstract view does not
    show. -/
theorem Tick.teff (ha : s.alive = true) (h : Tick F s t) : TEff (core s) (core t) := by
  cases h with
  | startSession m ps hp hph => exact .startSession (core s) m ha hp
  | startWait ps hp hph => exact .startWait (core s) ha hp
  | startFail ms ps hp hph => exact .startFail (core s) ms ha hp
  | commit dl hp =>
    have := TEff.commit (core s) dl ha hp
    rw [← core_flip s] at this ⊢; exact this
  | reader m y ho hy hb hf => rw [(Pre.polled ho hy).core]; exact .quiet _
  | phaseEnd x k hx hn hi hk =>
    obtain ⟨_, _, _, _, rfl⟩ := hx.writes
    exact .phaseEnd (core s) k ha hi hn
  | phaseEndCmd x c q k hx hn hi hq hcr =>
    obtain ⟨_, _, _, _, rfl⟩ := hx.writes
    rw [core_endPhase, core_applySetting]
    exact .phaseEndCmd (core s) k c q ha hi hn hq hcr
  | setting x c q hx hn hi hq hcr =>
    obtain ⟨_, _, _, _, rfl⟩ := hx.writes
    rw [core_applySetting]
    exact .setting (core s) c q ha hi hn hq hcr
  | noConn r q hp hq => exact .noConn (core s) r q ha hp hq
  | request m x r q t hp hx hq hst =>
    obtain ⟨_, _, _, _, rfl⟩ := hx.writes
    cases hst with
    | fail y res hy =>
      rw [core_finish, hy.core]
      exact .dequeueFail (core s) m r q res ha hp hq hy.res
    | sent pdu st' rb' he hd hw => exact .send (core s) m r q _ (isLatest _ m) ha hp hq
  | finish m q tx dl x res hp hx hf =>
    obtain ⟨h1, h2, h3⟩ := hf.teff
    obtain ⟨_, _, _, _, rfl⟩ := hx.writes
    rw [core_finish]
    exact .finish (core s) m q tx dl res ha hp h1 h2 h3

theorem tick_eff (F : Framing σ) (s t : State σ) (h : tick F s = some t) :
    TEff (core s) (core t) :=
  (tick_cases h).2.teff (tick_cases h).1

theorem nextTimer_core (s : State σ) : nextTimer s = (core s).timer := by
  unfold nextTimer Core.timer; rfl

theorem moveClock_eff (s : State σ) (target : Nat) :
    TEff (core s) (core (moveClock s target)) := by
  unfold moveClock
  simp only []
  refine TEff.time (core s) _ (Nat.le_max_left _ _) ?_
  intro dl hdl hle
  rw [nextTimer_core, hdl]
  simp only [core] at hle ⊢
  omega

theorem TaskInv.of_core (F : Framing σ) {P : Core → Prop} (h : ∀ c c', P c → TEff c c' → P c') :
    TaskInv F (fun s => P (core s)) where
  tick := fun s t hp ht => h _ _ hp (tick_eff F s t ht)
  release := fun _ hp => hp
  clock := fun s target hp => h _ _ hp (moveClock_eff s target)

theorem core_addPhase (s : State σ) (p : Phase) : core (addPhase s p) = core s := by
  unfold addPhase; split <;> rfl

theorem Applied.ueff {s t : State σ} {st : Step} (h : Applied s st t) : UEff (core s) (core t) := by
  cases h with
  | quiet st ph mk hd => exact .quiet _
  | note st e he => exact .note _ e (isNote_isDone he)
  | acceptDone op h r res extra hx hres =>
    refine .acceptDone (core s) r res extra ?_ (hres.elim .inr fun h => .inl h.1)
    rcases hx with rfl | ⟨e, rfl⟩ <;> simp [LogEntry.isDone]
  | acceptQueue op h r w ha => exact .acceptQueue _ r ha
  | enqueueCmd st c w hc ha => exact .enqueueCmd _ c ha hc
  | abort held ha =>
    rw [inflightReqs_eq, ← shutdownEntries_core]
    exact UEff.abort (core s) ha

theorem applyStep_eff (s : State σ) (st : Step) : UEff (core s) (core (applyStep s st)) :=
  (applyStep_cases s st).ueff

theorem runState_steps (F : Framing σ) (s : State σ) (steps : List Step) :
    Steps (core s) (core (runState F s steps)) :=
  runState_inv (TaskInv.of_core F (P := Steps (core s)) fun _ _ h e => h.tail (.inl e))
    (fun _ => True) (fun t st _ h => h.tail (.inr (applyStep_eff t st))) s steps
    (fun _ _ => trivial) (.refl _)

theorem core_init (F : Framing σ) (cap maxTo : Nat) (d : Decode) (coins : List Bool) :
    core (State.init F cap maxTo d coins) = Core.init maxTo := rfl

theorem runState_reach (F : Framing σ) (cap maxTo : Nat) (d : Decode) (coins : List Bool)
    (steps : List Step) : Reach (core (runState F (State.init F cap maxTo d coins) steps)) :=
  ⟨maxTo, by rw [← core_init F cap maxTo d coins]; exact runState_steps F _ steps⟩

theorem reach_of_eq {F : Framing σ} {cap maxTo : Nat} {d : Decode} {coins : List Bool}
    {steps : List Step} {s : State σ} (hs : s = runState F (State.init F cap maxTo d coins) steps) :
    Reach (core s) :=
  hs ▸ runState_reach F cap maxTo d coins steps

end

end Rodbus.Client
