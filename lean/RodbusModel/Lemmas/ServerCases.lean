import RodbusModel.Lemmas.Server
import RodbusModel.Model.Mbap
import RodbusModel.Model.Rtu
/-
  The vocabulary in which C01 / C02 / C08 / C17 are stated, and what `handleFrame` does in each of
  the situations the reference server distinguishes: two equations (`handleFrame_no_request`,
  `handleFrame_request`) read off `Spec.Server.respond`, and their exhaustive case form `Handled`.
  Nothing in Model/ or Spec/ depends on the definitions.
-/
namespace Rodbus
open Rodbus.Spec.Server

/-- the call is a question to the authorization handler (as opposed to a `RequestHandler` call) -/
def Call.isAuth : Call → Bool
  | .authRange .. | .authIndex .. => true
  | _ => false

/-- the request a frame denotes: its PDU is a known function code followed by a valid body -/
def requestOf (f : Frame) : Option Request :=
  match f.pdu with
  | [] => none
  | b :: body =>
    match Fc.ofByte b with
    | none => none
    | some fc => if validBody fc body then some (decode fc body) else none

/-- `FrameDestination::Broadcast`: only the RTU parser produces it, for destination byte 0 -/
def isBroadcast {σ : Type} (cfg : ServerCfg σ) (f : Frame) : Bool := cfg.rtu && f.dest == 0

/-- `AuthorizationType::is_authorized` = `Allow` -/
def ServerCfg.allows {σ : Type} (cfg : ServerCfg σ) (dest : Nat) (req : Request) : Bool :=
  match cfg.auth with
  | none => true
  | some (P, role) => P req.fc dest req.authArg role

def ServerCfg.question {σ : Type} (cfg : ServerCfg σ) (dest : Nat) (req : Request) : List Call :=
  match cfg.auth with
  | none => []
  | some (_, role) => [authQuestion req dest role]

/-- meaningful for the four read functions only: the last branch also catches the writes -/
def mkRead (fc : Fc) (r : Range) : Request :=
  match fc with
  | .readCoils => .readCoils r
  | .readDiscreteInputs => .readDiscreteInputs r
  | .readHoldingRegisters => .readHoldingRegisters r
  | _ => .readInputRegisters r

/-- the handler call that reads address `a` of unit `u`; for the four read functions only, as
    `mkRead` -/
def readCall (fc : Fc) (u a : Nat) : Call :=
  match fc with
  | .readCoils => .readCoil u a
  | .readDiscreteInputs => .readDiscreteInput u a
  | .readHoldingRegisters => .readHoldingRegister u a
  | _ => .readInputRegister u a

def Handler.readBit {σ : Type} (H : Handler σ) (fc : Fc) (s : σ) (a : Nat) : Except Nat Bool :=
  match fc with
  | .readCoils => H.readCoil s a
  | _ => H.readDiscreteInput s a

def Handler.readReg {σ : Type} (H : Handler σ) (fc : Fc) (s : σ) (a : Nat) : Except Nat Nat :=
  match fc with
  | .readHoldingRegisters => H.readHoldingRegister s a
  | _ => H.readInputRegister s a

def Handler.readErr {σ : Type} (H : Handler σ) (fc : Fc) (s : σ) (a : Nat) : Option Nat :=
  match fc with
  | .readCoils => errOf (H.readCoil s a)
  | .readDiscreteInputs => errOf (H.readDiscreteInput s a)
  | .readHoldingRegisters => errOf (H.readHoldingRegister s a)
  | .readInputRegisters => errOf (H.readInputRegister s a)
  | _ => none

def writeCalls (req : Request) (u : Nat) : List Call :=
  match req with
  | .writeSingleCoil i v => [.writeSingleCoil u i v]
  | .writeSingleRegister i v => [.writeSingleRegister u i v]
  | .writeMultipleCoils r vals => [.writeMultipleCoils u r (indexed r.start vals)]
  | .writeMultipleRegisters r vals => [.writeMultipleRegisters u r (indexed r.start vals)]
  | _ => []

def Handler.applyWrite {σ : Type} (H : Handler σ) (s : σ) (req : Request) : Except Nat Unit × σ :=
  match req with
  | .writeSingleCoil i v => H.writeSingleCoil s i v
  | .writeSingleRegister i v => H.writeSingleRegister s i v
  | .writeMultipleCoils r vals => H.writeMultipleCoils s r (indexed r.start vals)
  | .writeMultipleRegisters r vals => H.writeMultipleRegisters s r (indexed r.start vals)
  | _ => (.ok (), s)

/-- the request echoed by a successful write: address + value / start + quantity -/
def writeEcho (req : Request) : Bytes :=
  match req with
  | .writeSingleCoil i v => u16be i ++ u16be (coilToU16 v)
  | .writeSingleRegister i v => u16be i ++ u16be v
  | .writeMultipleCoils r _ | .writeMultipleRegisters r _ => u16be r.start ++ u16be r.count
  | _ => []

/-- `FrameWriter::format_*` with the header of the request frame.  The session model has its own
    copy, `frameOut` (Model/Session.lean); `C01.frameOut_eq_frameReply` says they are one function. -/
def frameReply (rtu : Bool) (f : Frame) (pdu : Bytes) : Bytes :=
  if rtu then Rtu.format f.dest pdu else Mbap.format (f.tx.getD 0) f.dest pdu

theorem requestOf_some_iff (f : Frame) (req : Request) :
    requestOf f = some req ↔
      ∃ b body fc, f.pdu = b :: body ∧ Fc.ofByte b = some fc ∧ validBody fc body = true
        ∧ req = decode fc body := by
  unfold requestOf
  constructor
  · intro h
    split at h
    · simp at h
    · rename_i b body hp
      split at h
      · simp at h
      · rename_i fc hfc
        split at h
        · rename_i hv
          injection h with h; exact ⟨b, body, fc, hp, hfc, hv, h.symm⟩
        · simp at h
  · rintro ⟨b, body, fc, hp, hfc, hv, rfl⟩
    simp [hp, hfc, hv]

theorem requestOf_fc {f : Frame} {req : Request} (h : requestOf f = some req) :
    ∃ body, f.pdu = req.fc.toByte :: body := by
  obtain ⟨b, body, fc, hp, hfc, _, rfl⟩ := (requestOf_some_iff f req).1 h
  exact ⟨body, by rw [decode_fc, Fc.toByte_of_ofByte hfc]; exact hp⟩

/-- a frame denotes a request iff the cursor-style parser of the implementation accepts it -/
theorem requestOf_eq_parse (f : Frame) :
    requestOf f = match f.pdu with
      | [] => none
      | b :: body => (Fc.ofByte b).bind fun fc => parseRequest fc body := by
  unfold requestOf
  cases hp : f.pdu with
  | nil => rfl
  | cons b body =>
    simp only []
    cases hfc : Fc.ofByte b with
    | none => rfl
    | some fc => simp [parseRequest_eq]

theorem decode_read (fc : Fc) (h : fc.isRead = true) (body : Bytes) :
    decode fc body = mkRead fc ⟨u16At body 0, u16At body 2⟩ := by
  cases fc <;> first | rfl | simp [Fc.isRead] at h

theorem mkRead_fc (fc : Fc) (h : fc.isRead = true) (r : Range) : (mkRead fc r).fc = fc := by
  cases fc <;> first | rfl | simp [Fc.isRead] at h

theorem isWrite_iff_not_isRead (req : Request) : isWrite req = !req.fc.isRead := by
  cases req <;> rfl

theorem isWrite_mkRead (fc : Fc) (r : Range) : isWrite (mkRead fc r) = false := by
  cases fc <;> rfl

theorem read_eq_mkRead (req : Request) (h : isWrite req = false) :
    ∃ r, req = mkRead req.fc r ∧ req.fc.isRead = true := by
  cases req <;> first | exact ⟨_, rfl, rfl⟩ | cases h

/-- `writeCalls`, `applyWrite` and `writeEcho` are read off `Request::get_reply` -/
theorem getReply_write {σ : Type} (H : Handler σ) (u : Nat) (s : σ) (req : Request)
    (hw : isWrite req = true) :
    getReply H u s req =
      (match (H.applyWrite s req).1 with
        | .ok () => req.fc.toByte :: writeEcho req
        | .error e => [orErr req.fc.toByte, e],
       writeCalls req u, (H.applyWrite s req).2) := by
  cases req <;> first | rfl | cases hw

theorem serve_write {σ : Type} (H : Handler σ) (u : Nat) (s : σ) (req : Request)
    (hw : isWrite req = true) :
    serve H u s req =
      (match (H.applyWrite s req).1 with
        | .ok () => req.fc.toByte :: writeEcho req
        | .error e => [orErr req.fc.toByte, e],
       writeCalls req u, (H.applyWrite s req).2) := by
  rw [← getReply_eq_serve, getReply_write H u s req hw]

theorem applyToAll_write {σ : Type} (H : Handler σ) (req : Request) (hw : isWrite req = true)
    (hs : List (Nat × σ)) :
    applyToAll H req hs =
      ((hs.map Prod.fst).flatMap (writeCalls req),
       hs.map (fun p => (p.1, (H.applyWrite p.2 req).2))) := by
  induction hs with
  | nil => rfl
  | cons p rest ih =>
    obtain ⟨u, s⟩ := p
    simp only [applyToAll, ih, serve_write H u s req hw, List.flatMap_cons, List.map_cons]

/-- a frame that does not denote a request: no call, no state change; an individually addressed,
    configured unit answers a non-empty PDU with exception 01 (unknown function) or 03 (known
    function, invalid body) -/
theorem handleFrame_no_request {σ : Type} (cfg : ServerCfg σ) (hs : List (Nat × σ)) (f : Frame)
    (h : requestOf f = none) :
    handleFrame cfg hs f =
      ⟨if !f.pdu.isEmpty && !isBroadcast cfg f && (lookupUnit hs f.dest).isSome then
          some [orErr (f.pdu.headD 0), if (Fc.ofByte (f.pdu.headD 0)).isSome then 3 else 1]
        else none, [], hs⟩ := by
  rw [handleFrame_eq_respond]
  unfold requestOf at h
  unfold respond isBroadcast
  cases hp : f.pdu with
  | nil => rfl
  | cons b body =>
    rw [hp] at h
    cases hfc : Fc.ofByte b with
    | none => cases cfg.rtu && f.dest == 0 <;> cases lookupUnit hs f.dest <;> simp [hfc]
    | some fc =>
      have hv : validBody fc body = false := by simpa [hfc] using h
      cases cfg.rtu && f.dest == 0 <;> cases lookupUnit hs f.dest <;>
        simp [hfc, hv, Fc.toByte_of_ofByte hfc]

theorem handleFrame_request {σ : Type} (cfg : ServerCfg σ) (hs : List (Nat × σ)) (f : Frame)
    {req : Request} (h : requestOf f = some req) :
    handleFrame cfg hs f =
      if cfg.allows f.dest req = false then
        ⟨if isBroadcast cfg f then none else some [orErr req.fc.toByte, 1],
          cfg.question f.dest req, hs⟩
      else if isBroadcast cfg f then
        if isWrite req then
          ⟨none, cfg.question f.dest req ++ (applyToAll cfg.H req hs).1, (applyToAll cfg.H req hs).2⟩
        else ⟨none, cfg.question f.dest req, hs⟩
      else
        match lookupUnit hs f.dest with
        | none => ⟨none, cfg.question f.dest req, hs⟩
        | some s =>
          ⟨some (serve cfg.H f.dest s req).1, cfg.question f.dest req ++ (serve cfg.H f.dest s req).2.1,
            setUnit hs f.dest (serve cfg.H f.dest s req).2.2⟩ := by
  obtain ⟨b, body, fc, hp, hfc, hv, rfl⟩ := (requestOf_some_iff f req).1 h
  rw [handleFrame_eq_respond]
  simp only [respond, hp, hfc, hv, isBroadcast, ServerCfg.allows, ServerCfg.question, decode_fc,
    List.isEmpty_cons, List.headD_cons, List.drop_succ_cons, List.drop_zero]
  -- in the order of the decision: permitted?, broadcast?, and then nothing is left to decide
  cases cfg.auth with
  | none =>
    rcases Bool.eq_false_or_eq_true (cfg.rtu && f.dest == 0) with hb | hb
    · simp [hb]
    · cases lookupUnit hs f.dest <;> simp [hb]
  | some pr =>
    obtain ⟨P, role⟩ := pr
    rcases Bool.eq_false_or_eq_true (P fc f.dest (decode fc body).authArg role) with hP | hP
    · rcases Bool.eq_false_or_eq_true (cfg.rtu && f.dest == 0) with hb | hb
      · simp [hb, hP]
      · cases lookupUnit hs f.dest <;> simp [hb, hP]
    · simp [hP]

/-- a permitted broadcast write: no reply, one write call per configured unit in map order, every
    unit's state the one its handler returns -/
theorem handleFrame_broadcast_write {σ : Type} (cfg : ServerCfg σ) (hs : List (Nat × σ)) (f : Frame)
    {req : Request} (hreq : requestOf f = some req) (ha : cfg.allows f.dest req = true)
    (hb : isBroadcast cfg f = true) (hw : isWrite req = true) :
    handleFrame cfg hs f =
      ⟨none, cfg.question f.dest req ++ (hs.map Prod.fst).flatMap (writeCalls req),
        hs.map fun p => (p.1, (cfg.H.applyWrite p.2 req).2)⟩ := by
  rw [handleFrame_request cfg hs f hreq]
  simp only [ha, hb, hw, Bool.true_eq_false, if_false, if_true, applyToAll_write cfg.H req hw]

/-- the five things `handle_frame` does with a frame: the two equations above, as cases -/
inductive Handled {σ : Type} (cfg : ServerCfg σ) (hs : List (Nat × σ)) (f : Frame) :
    FrameOut σ → Prop
  /-- not a request: exception 01 for an unknown function, 03 for an invalid body -/
  | rejected (h : requestOf f = none) :
      Handled cfg hs f
        ⟨if !f.pdu.isEmpty && !isBroadcast cfg f && (lookupUnit hs f.dest).isSome then
            some [orErr (f.pdu.headD 0), if (Fc.ofByte (f.pdu.headD 0)).isSome then 3 else 1]
          else none, [], hs⟩
  | denied (req : Request) (h : requestOf f = some req) (hd : cfg.allows f.dest req = false) :
      Handled cfg hs f ⟨if isBroadcast cfg f then none else some [orErr req.fc.toByte, 1],
        cfg.question f.dest req, hs⟩
  /-- a permitted broadcast read, or a permitted request for a unit that is not configured -/
  | ignored (req : Request) (h : requestOf f = some req) (ha : cfg.allows f.dest req = true)
      (hi : isBroadcast cfg f = true ∧ isWrite req = false
        ∨ isBroadcast cfg f = false ∧ lookupUnit hs f.dest = none) :
      Handled cfg hs f ⟨none, cfg.question f.dest req, hs⟩
  | broadcast (req : Request) (h : requestOf f = some req) (ha : cfg.allows f.dest req = true)
      (hb : isBroadcast cfg f = true) (hw : isWrite req = true) :
      Handled cfg hs f ⟨none, cfg.question f.dest req ++ (hs.map Prod.fst).flatMap (writeCalls req),
        hs.map fun p => (p.1, (cfg.H.applyWrite p.2 req).2)⟩
  | served (req : Request) (s : σ) (h : requestOf f = some req)
      (ha : cfg.allows f.dest req = true) (hb : isBroadcast cfg f = false)
      (hl : lookupUnit hs f.dest = some s) :
      Handled cfg hs f ⟨some (serve cfg.H f.dest s req).1,
        cfg.question f.dest req ++ (serve cfg.H f.dest s req).2.1,
        setUnit hs f.dest (serve cfg.H f.dest s req).2.2⟩

/-- use: `have h := handleFrame_handled cfg hs f; generalize handleFrame cfg hs f = o at h; cases h` -/
theorem handleFrame_handled {σ : Type} (cfg : ServerCfg σ) (hs : List (Nat × σ)) (f : Frame) :
    Handled cfg hs f (handleFrame cfg hs f) := by
  cases hreq : requestOf f with
  | none => rw [handleFrame_no_request cfg hs f hreq]; exact .rejected hreq
  | some req =>
    rw [handleFrame_request cfg hs f hreq]
    cases ha : cfg.allows f.dest req
    · exact .denied req hreq ha
    · cases hb : isBroadcast cfg f
      · cases hl : lookupUnit hs f.dest
        · exact .ignored req hreq ha (.inr ⟨hb, hl⟩)
        · exact .served req _ hreq ha hb hl
      · cases hw : isWrite req
        · exact .ignored req hreq ha (.inl ⟨hb, hw⟩)
        · simp only [applyToAll_write cfg.H req hw]; exact .broadcast req hreq ha hb hw

end Rodbus
