import RodbusModel.Props.C01
import RodbusModel.Props.C01Stream
import RodbusModel.Props.Tables
import RodbusModel.Props.C01Session
import RodbusModel.Props.C01Write
/- axiom audit for C01: every line must report a subset of {propext, Classical.choice, Quot.sound} -/
#print axioms Rodbus.C01.handleFrame_eq_spec
#print axioms Rodbus.C01.handleFrame_eq_spec_wf
#print axioms Rodbus.C01.parse_iff_valid
#print axioms Rodbus.C01.parse_none_iff_invalid
#print axioms Rodbus.C01.request_of_frame
#print axioms Rodbus.C01.runFrames_eq_spec
#print axioms Rodbus.C01.reply_framing_tcp
#print axioms Rodbus.C01.reply_framing_rtu
#print axioms Rodbus.C01.reply_pdu_len
#print axioms Rodbus.C01.framed_reply_len
#print axioms Rodbus.C01.empty_pdu_silent
#print axioms Rodbus.C01.unknown_function_reply
#print axioms Rodbus.C01.unknown_function_iff
#print axioms Rodbus.C01.orErr_is_or_0x80
#print axioms Rodbus.C01.invalid_request_reply
#print axioms Rodbus.C01.unconfigured_silent
#print axioms Rodbus.C01.served
#print axioms Rodbus.C01.read_request_of_frame
#print axioms Rodbus.C01.read_bits_payload
#print axioms Rodbus.C01.read_regs_payload
#print axioms Rodbus.C01.read_byte_count_fits
#print axioms Rodbus.C01.first_exception_reply
#print axioms Rodbus.C01.readErr_meaning
#print axioms Rodbus.C01.write_echo
#print axioms Rodbus.C01.write_echo_is_request_prefix
#print axioms Rodbus.C01.session_replies
#print axioms Rodbus.C01.session_replies_cons
#print axioms Rodbus.C01.session_replies_in_order
#print axioms Rodbus.C01.session_units_constant
#print axioms Rodbus.Tables.fc_table_correct
#print axioms Rodbus.Tables.fc_ofByte_large
#print axioms Rodbus.Tables.error_mask_correct
#print axioms Rodbus.Tables.exception_roundtrip
#print axioms Rodbus.Tables.limits_correct
#print axioms Rodbus.Tables.server_limits_correct
#print axioms Rodbus.Tables.server_limits_sharp
#print axioms Rodbus.Tables.request_function_correct
#print axioms Rodbus.Tables.broadcast_table_correct
#print axioms Rodbus.C01Stream.stream_replies
#print axioms Rodbus.C01Stream.session_chunking_independent
#print axioms Rodbus.C01Stream.handleEvents_uses_reference_server
#print axioms Rodbus.C01Stream.readerRun_eq_spec
/- session clauses (Props/C01Session.lean, Lemmas/ServerSession.lean) -/
#print axioms Rodbus.C01.denied_no_auth
#print axioms Rodbus.C01.reply_iff_answerable
#print axioms Rodbus.C01.configured_always_answered
#print axioms Rodbus.C01.denied_always_answered
#print axioms Rodbus.C01.answerable_keys
#print axioms Rodbus.C01.session_replies_exact
#print axioms Rodbus.C01.session_reply_count
#print axioms Rodbus.C01.session_reply_is_frame_reply
#print axioms Rodbus.C01.frameOut_eq_frameReply
#print axioms Rodbus.C01.session_writes_framed_replies
#print axioms Rodbus.C01.session_tx_tcp
#print axioms Rodbus.C01.session_tx_rtu
#print axioms Rodbus.C01.tcp_frames_have_tx
#print axioms Rodbus.C01.session_frames_have_tx
#print axioms Rodbus.handleEvents_eq_runFrames
#print axioms Rodbus.runSession_runFrames
#print axioms Rodbus.runSessionW_runFrames
#print axioms Rodbus.mem_framesBeforeError_iff
#print axioms Rodbus.events_split
#print axioms Rodbus.C01W.handleEventsW_eq_runFrames
#print axioms Rodbus.C01W.failed_iff
#print axioms Rodbus.C01W.write_failure_session
#print axioms Rodbus.C01W.write_failure_wire
#print axioms Rodbus.C01W.write_failure_prefix
#print axioms Rodbus.C01W.write_failure_ends_session
#print axioms Rodbus.C01W.write_failure_unreached
#print axioms Rodbus.C01W.write_failure_calls_justified
#print axioms Rodbus.C01W.write_failure_wire_spec
#print axioms Rodbus.C01W.write_failure_states_spec
#print axioms Rodbus.C01W.write_failure_monotone
