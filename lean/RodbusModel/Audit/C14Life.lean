import RodbusModel.Props.C14Life
#print axioms Rodbus.C14Life.conforms_append
#print axioms Rodbus.C14Life.counter_append
#print axioms Rodbus.C14Life.DelayPhase.of_reads
#print axioms Rodbus.Life.Eff.delay
#print axioms Rodbus.C14Life.delayInv
#print axioms Rodbus.C14Life.delayQ_run
#print axioms Rodbus.C14Life.announced_delays_conform
#print axioms Rodbus.C14Life.logged_delays_conform
#print axioms Rodbus.C14Life.conforms_last
#print axioms Rodbus.C14Life.counter_spec
