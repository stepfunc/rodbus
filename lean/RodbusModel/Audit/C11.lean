import RodbusModel.Props.C11
/-! axiom audit of every property theorem of Props/C11 -/
#print axioms Rodbus.Client.one_outstanding
#print axioms Rodbus.Client.write_only_when_idle
#print axioms Rodbus.Client.fifo_order
#print axioms Rodbus.Client.txid_formula
#print axioms Rodbus.Client.mbap_stamps_txid
#print axioms Rodbus.Client.sent_frame
#print axioms Rodbus.Client.txid_next_wraps
#print axioms Rodbus.Client.consecutive_differ
#print axioms Rodbus.Client.mismatch_discarded
#print axioms Rodbus.Client.mismatch_discarded_at_deadline
#print axioms Rodbus.Client.stale_frame_never_accepted
#print axioms Rodbus.Client.stale_frame_never_accepted_mbap
#print axioms Rodbus.Client.stale_frame_never_accepted_rtu
#print axioms Rodbus.Client.stale_garbage_fails_request
#print axioms Rodbus.Client.idle_dropped
#print axioms Rodbus.Client.idle_frame_no_effect
#print axioms Rodbus.Client.fifo_reach
#print axioms Rodbus.Client.txSeq_reach
#print axioms Rodbus.Client.out_reach
#print axioms Rodbus.Client.discard_complete
#print axioms Rodbus.Client.mbap_discardComplete
