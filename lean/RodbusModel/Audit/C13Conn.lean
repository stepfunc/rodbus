import RodbusModel.Props.C13Conn
#print axioms Rodbus.C13.connection_open_iff
#print axioms Rodbus.C13.next_state_announced_closed
#print axioms Rodbus.C13.connected_announced_open
#print axioms Rodbus.C13.closed_before_next_state
#print axioms Rodbus.C13.session_end_closes_connection
#print axioms Rodbus.C13.disable_closes_connection'
#print axioms Rodbus.C13.shutdown_closes_connection'
#print axioms Rodbus.C13.drop_closes_connection'
#print axioms Rodbus.C13.idle_session_reachable_facts
#print axioms Rodbus.C13.afterShutdownOk_cons
#print axioms Rodbus.C13.afterShutdownOk_append
#print axioms Rodbus.C13.Shut.ok
#print axioms Rodbus.C13.shutInv
#print axioms Rodbus.C13.nothing_after_shutdown
