import RodbusModel.Props.C09
import RodbusModel.Props.C09Client
import RodbusModel.Props.C15NetTls
#print axioms Rodbus.C09.versions_correct
#print axioms Rodbus.C09.tls_table_correct
#print axioms Rodbus.C09.negotiate_enabled
#print axioms Rodbus.C09.negotiated_at_least_min
#print axioms Rodbus.C09.negotiation_succeeds
#print axioms Rodbus.C09.negotiate_isSome_iff
#print axioms Rodbus.C09.admitClient_eq_some
#print axioms Rodbus.C09.extractRole_eq_some
#print axioms Rodbus.C09.extractRole_isSome
#print axioms Rodbus.C09.admitServer_eq_some
#print axioms Rodbus.C09.admitServer_none
#print axioms Rodbus.C09.admitClient_none
#print axioms Rodbus.C09.admit_iff
#print axioms Rodbus.C09.role_is_certificate_role
#print axioms Rodbus.C09.no_role_refused
#print axioms Rodbus.C09.no_authz_no_role
#print axioms Rodbus.C09.client_admit_iff
#print axioms Rodbus.C09.cert_accepted_meaning
#print axioms Rodbus.C09.no_certificate_refused
#print axioms Rodbus.C09.extra_certificates_irrelevant
#print axioms Rodbus.C09.role_is_end_entity_role
#print axioms Rodbus.C09.self_signed_single_certificate
#print axioms Rodbus.C09.empty_chain_refused
#print axioms Rodbus.C09.roleless_end_entity_refused
#print axioms Rodbus.C09.admitServerSeq_get
#print axioms Rodbus.C09.admitServerSeq_length
#print axioms Rodbus.C09.admission_history_independent
#print axioms Rodbus.C09.admission_depends_on_peer_only
#print axioms Rodbus.C09.roleless_refused_after_any_history
#print axioms Rodbus.C09.role_is_own_role_after_any_history
/- client-side Certificate message (Props/C09Client.lean); no service before admission (Props/C15NetTls.lean) -/
#print axioms Rodbus.C09.client_self_signed_single_certificate
#print axioms Rodbus.C09.client_extra_certificates_irrelevant
#print axioms Rodbus.C09.client_single_certificate
#print axioms Rodbus.C09.client_empty_chain_refused
#print axioms Rodbus.C09.client_chain_admit_iff
#print axioms Rodbus.C09.client_chain_version
#print axioms Rodbus.C09.client_self_signed_name_irrelevant
#print axioms Rodbus.C09.self_signed_verifier_symmetric
#print axioms Rodbus.C15Net.no_service_before_admission
#print axioms Rodbus.C15Net.no_service_before_admission_reachable
#print axioms Rodbus.C15Net.tls_trace_serves_nothing
#print axioms Rodbus.C15Net.tls_constant_run
