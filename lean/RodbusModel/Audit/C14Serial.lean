import RodbusModel.Props.C14Serial
#print axioms Rodbus.C14Serial.init_sim
#print axioms Rodbus.C14Serial.sim_mk
#print axioms Rodbus.C14Serial.step_sim
#print axioms Rodbus.C14Serial.script_sim
#print axioms Rodbus.C14Serial.run_eq_spec
#print axioms Rodbus.C14Serial.reachable_sim
#print axioms Rodbus.C14Serial.Sim.session
#print axioms Rodbus.C14Serial.spec_done_outputs
#print axioms Rodbus.C14Serial.spec_conforms_step
#print axioms Rodbus.C14Serial.spec_conforms
#print axioms Rodbus.C14Serial.announced_delays_conform
#print axioms Rodbus.C14Serial.after_concat
#print axioms Rodbus.C14Serial.outputs_append
#print axioms Rodbus.C14Serial.waiting_failures
#print axioms Rodbus.C14Serial.restart_after_port_loss
#print axioms Rodbus.C14Serial.restart_after_disable
#print axioms Rodbus.C14Serial.init_enInv
#print axioms Rodbus.C14Serial.step_enInv
#print axioms Rodbus.C14Serial.reachable_enInv
#print axioms Rodbus.C14Serial.disabled_step
#print axioms Rodbus.C14Serial.no_open_while_disabled
#print axioms Rodbus.C14Serial.open_implies_enabled
#print axioms Rodbus.C14Serial.finished_outputs
#print axioms Rodbus.C14Serial.step_running
#print axioms Rodbus.C14Serial.outputs_shutdown_last
#print axioms Rodbus.C14Serial.shutdown_final
#print axioms Rodbus.C14Serial.drop_all_ends_task
#print axioms Rodbus.C14Serial.nothing_after_drop_all
