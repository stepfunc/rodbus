import RodbusModel.Props.C06
import RodbusModel.Props.C06Span
/- axiom audit for C06: every line must report a subset of {propext, Classical.choice, Quot.sound} -/
#print axioms Rodbus.C06.format_crc
#print axioms Rodbus.C06.format_len
#print axioms Rodbus.C06.format_len_le
#print axioms Rodbus.C06.crc_lt
#print axioms Rodbus.C06.format_wf
#print axioms Rodbus.C06.accept_sound
#print axioms Rodbus.C06.accept_sound_toOffset
#print axioms Rodbus.C06.accept_sound_fullBody
#print axioms Rodbus.Rtu.specFrames_frame_mem
#print axioms Rodbus.C06.parse_no_internal_error
#print axioms Rodbus.C06.peek_in_bounds
#print axioms Rodbus.C06.rtu_chunking_independent
#print axioms Rodbus.C06.no_spurious_eof
#print axioms Rodbus.C06.no_internal_short_read
#print axioms Rodbus.C06.run_errors
#print axioms Rodbus.C06.run_accept_sound
#print axioms Rodbus.C06.format_parse_roundtrip
#print axioms Rodbus.C06.format_run_roundtrip
#print axioms Rodbus.C06.wellFormedPdu_iff_span
#print axioms Rodbus.C06.g_xor
#print axioms Rodbus.C06.iter_g_xor
#print axioms Rodbus.C06.g_injective
#print axioms Rodbus.C06.iter_g_injective
#print axioms Rodbus.C06.crc_eq_iter
#print axioms Rodbus.C06.crc_xor_error
#print axioms Rodbus.C06.burst_detected
#print axioms Rodbus.C06.single_bit_detected
#print axioms Rodbus.C06.double_bit_detected
#print axioms Rodbus.C06.crc_trailer_zero_iff
#print axioms Rodbus.C06.corrupted_frame_crc_mismatch
#print axioms Rodbus.C06.corrupted_frame_residue
#print axioms Rodbus.C06.corruption_rejected_partial
#print axioms Rodbus.C06.corruption_rejected_run_partial
#print axioms Rodbus.C06.singleBit_at
#print axioms Rodbus.C06.byte_count_flip_accepted
#print axioms Rodbus.C06.length_mode_table_correct
#print axioms Rodbus.C06.frame_constants_correct
/- delimitation hypothesis discharged (Props/C06Span.lean) -/
#print axioms Rodbus.Rtu.lengthMode_request
#print axioms Rodbus.Rtu.lengthMode_response
#print axioms Rodbus.C06.delimiting_bytes_request
#print axioms Rodbus.C06.delimiting_bytes_response
#print axioms Rodbus.Crc.xorBytes_getElem?_of_zero
#print axioms Rodbus.Rtu.frameLen?_congr
#print axioms Rodbus.C06.span_unchanged
#print axioms Rodbus.C06.corruption_rejected_data_bytes
#print axioms Rodbus.C06.corruption_rejected_data_bytes_run
#print axioms Rodbus.C06.address_and_crc_never_delimiting
#print axioms Rodbus.C06.byte_count_flip_position
#print axioms Rodbus.C06.request_byte_count_flip_accepted
#print axioms Rodbus.C06.function_code_flip_accepted
