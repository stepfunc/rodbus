import RodbusModel.Props.C19
#print axioms Rodbus.C19.db_refines_map
#print axioms Rodbus.C19.add_succeeds_iff_absent
#print axioms Rodbus.C19.update_succeeds_iff_present
#print axioms Rodbus.C19.delete_succeeds_iff_present
#print axioms Rodbus.C19.get_fails_iff_absent
#print axioms Rodbus.C19.tables_independent
#print axioms Rodbus.C19.db_tables_independent
#print axioms Rodbus.C19.getReply_read
#print axioms Rodbus.C19.absent_point_exception_02
#print axioms Rodbus.C19.transaction_atomic
#print axioms Rodbus.C19.read_sees_whole_transactions
#print axioms Rodbus.C19.database_tables
#print axioms Rodbus.C19.absent_is_exception_2
#print axioms Rodbus.Ffi.Db.run_append
#print axioms Rodbus.C19.transaction_boundaries_invisible
#print axioms Rodbus.C19.successive_transactions_refine_map
#print axioms Rodbus.Ffi.Spec.AMap.set_ne
#print axioms Rodbus.Ffi.Spec.AMap.set_eq_self
#print axioms Rodbus.Ffi.Spec.AMap.set_comm
#print axioms Rodbus.Ffi.Spec.AMap.step_eq
#print axioms Rodbus.C19.disjoint_ops_commute
#print axioms Rodbus.C19.step_run_commute
#print axioms Rodbus.C19.disjoint_writers_commute
#print axioms Rodbus.C19.db_disjoint_writers_commute
#print axioms Rodbus.C19.incr_applied_once
