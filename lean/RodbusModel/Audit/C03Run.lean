import RodbusModel.Props.C03Run
/-! axiom audit of every property theorem of Props/C03Run and of the invariant lemmas it uses -/
#print axioms Rodbus.Client.sent_is_encoding
#print axioms Rodbus.Client.sent_is_valid_encoding
#print axioms Rodbus.Client.mbap_sent_frames
#print axioms Rodbus.Client.rtu_sent_frames
#print axioms Rodbus.Client.tx_log_is_sent
#print axioms Rodbus.Client.mbap_tx_log_frames
#print axioms Rodbus.Client.rtu_tx_log_frames
#print axioms Rodbus.Client.startRequest_emission
#print axioms Rodbus.Client.invalid_completes_badReq
#print axioms Rodbus.Client.invalid_never_sent
#print axioms Rodbus.ClientPdu.encode_len_le
#print axioms Rodbus.Client.reachable_logOk
#print axioms Rodbus.Client.runState_logOk
#print axioms Rodbus.Client.logOk_blocks
#print axioms Rodbus.Client.runState_inv
