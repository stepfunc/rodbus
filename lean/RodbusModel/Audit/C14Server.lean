import RodbusModel.Props.C14Server
#print axioms Rodbus.C14Server.init_sim
#print axioms Rodbus.C14Server.sim_mk
#print axioms Rodbus.C14Server.step_sim
#print axioms Rodbus.C14Server.script_sim
#print axioms Rodbus.C14Server.run_eq_spec
#print axioms Rodbus.C14Server.Sim.session
#print axioms Rodbus.C14Server.spec_done_outputs
#print axioms Rodbus.C14Server.spec_conforms_step
#print axioms Rodbus.C14Server.spec_conforms
#print axioms Rodbus.C14Server.observed_delays_conform
#print axioms Rodbus.C14Server.outputs_append
#print axioms Rodbus.C14Server.absent_failures
#print axioms Rodbus.C14Server.failures_from_start
#print axioms Rodbus.C14Server.restart_after_session_end
#print axioms Rodbus.C14Server.restart_after_port_loss
#print axioms Rodbus.C14Server.restart_after_bad_frame
#print axioms Rodbus.C14Server.reply_iff_open
#print axioms Rodbus.C14Server.finished_outputs
#print axioms Rodbus.C14Server.finished_after
#print axioms Rodbus.C14Server.shutdown_from_every_state
#print axioms Rodbus.C14Server.shutdown_ends_run
#print axioms Rodbus.C14Server.step_running
#print axioms Rodbus.C14Server.outputs_ended_last
#print axioms Rodbus.C14Server.ended_final
