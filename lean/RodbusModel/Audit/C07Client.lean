import RodbusModel.Props.C07Client
/-! axiom audit of every property theorem of Props/C07Client and of the invariant lemmas it uses -/
#print axioms Rodbus.Client.client_phase_outcome
#print axioms Rodbus.Client.client_phase_outcome_mbap
#print axioms Rodbus.Client.client_phase_outcome_rtu
#print axioms Rodbus.Client.noInternal_resOk
#print axioms Rodbus.Client.bf_is_protocol_error
#print axioms Rodbus.Client.fin_kinds
#print axioms Rodbus.Client.sessionEnd_kinds
#print axioms Rodbus.Client.client_no_spin
#print axioms Rodbus.Client.client_no_spin_mbap
#print axioms Rodbus.Client.client_no_spin_rtu
#print axioms Rodbus.Client.stepState_blocked
#print axioms Rodbus.Client.client_shutdown_honoured
#print axioms Rodbus.Client.shutdown_cmd_ends_phase
#print axioms Rodbus.Client.handles_dropped_ends_phase
#print axioms Rodbus.Client.blocked_not_pending_shutdown
#print axioms Rodbus.Client.wake_ends_session
#print axioms Rodbus.Client.shutdown_step_ends_session
#print axioms Rodbus.Client.handle_drop_ends_session
#print axioms Rodbus.Client.ReaderSafe.of_refines
#print axioms Rodbus.Client.mbap_readerSafe
#print axioms Rodbus.Client.rtu_readerSafe
#print axioms Rodbus.Client.ReaderSafe.readerPoll
#print axioms Rodbus.Client.ReaderSafe.discard
#print axioms Rodbus.Client.ReaderSafe.reachable
#print axioms Rodbus.Client.reachable_rd
#print axioms Rodbus.Client.settled_is_blocked
#print axioms Rodbus.Client.mbap_settled_blocked
#print axioms Rodbus.Client.rtu_settled_blocked
#print axioms Rodbus.Client.settle_fuel_irrelevant
