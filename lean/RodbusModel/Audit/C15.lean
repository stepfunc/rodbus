import RodbusModel.Props.C15
#print axioms Rodbus.C15.sorted_append_last
#print axioms Rodbus.C15.new_max
#print axioms Rodbus.C15.new_inv
#print axioms Rodbus.C15.add_ids
#print axioms Rodbus.C15.mem_add_ids
#print axioms Rodbus.C15.add_inv
#print axioms Rodbus.C15.remove_inv
#print axioms Rodbus.C15.run_inv
#print axioms Rodbus.C15.tracker_bound
#print axioms Rodbus.C15.head_lt
#print axioms Rodbus.C15.evicts_oldest
#print axioms Rodbus.C15.remove_absent
#print axioms Rodbus.C15.fresh_id
#print axioms Rodbus.C15.remove_comm
#print axioms Rodbus.C15.remove_add_ids
