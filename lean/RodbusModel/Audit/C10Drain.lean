import RodbusModel.Props.C10Drain
/-! axiom audit of every property theorem of Props/C10Drain and of the lemmas it rests on -/
#print axioms Rodbus.Client.drain_completes
#print axioms Rodbus.Client.drain_completes_mbap
#print axioms Rodbus.Client.drain_completes_rtu
#print axioms Rodbus.Client.drain_completes_once
#print axioms Rodbus.Client.mbap_consuming
#print axioms Rodbus.Client.rtu_consuming
#print axioms Rodbus.Client.readerPoll_measure
#print axioms Rodbus.Client.Tick.mu_lt
#print axioms Rodbus.Client.tick_mu
#print axioms Rodbus.Client.settle_progress
#print axioms Rodbus.Client.blocked_cases
#print axioms Rodbus.Client.stepState_at_deadline
#print axioms Rodbus.Client.inflight_advance
#print axioms Rodbus.Client.kick
#print axioms Rodbus.Client.drains_all
