import RodbusModel.Props.C16
#print axioms Rodbus.C16.fieldMatches_iff
#print axioms Rodbus.C16.matches_spec
#print axioms Rodbus.C16.star_matches_all_v4
#print axioms Rodbus.C16.wildcard_never_v6
#print axioms Rodbus.C16.getByte_iff
#print axioms Rodbus.C16.parseDigits_le
#print axioms Rodbus.C16.parseU8_le
#print axioms Rodbus.C16.parseU8_nonempty
#print axioms Rodbus.C16.wildcard_parse_iff
#print axioms Rodbus.C16.wrong_field_count_rejected
#print axioms Rodbus.C16.FieldOk.octet
#print axioms Rodbus.C16.parsed_fields_are_octets
#print axioms Rodbus.C16.splitDots_ne_nil
#print axioms Rodbus.C16.joinDots_cons_cons
#print axioms Rodbus.C16.splitDots_join
#print axioms Rodbus.C16.splitDots_no_dot
