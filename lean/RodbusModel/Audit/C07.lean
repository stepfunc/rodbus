import RodbusModel.Props.C05Cancel
import RodbusModel.Props.C01Write
import RodbusModel.Props.C07
import RodbusModel.Props.C02
import RodbusModel.Props.C03
import RodbusModel.Props.C04
#print axioms Rodbus.C07.range_addresses_fit
#print axioms Rodbus.C07.last_address_may_be_max
#print axioms Rodbus.indexed_indices
#print axioms Rodbus.C07.indexed_indices_fit
#print axioms Rodbus.C07.mbap_length_field_fits
#print axioms Rodbus.C07.byte_counts_fit
#print axioms Rodbus.C07.read_buffer_indices_in_bounds
#print axioms Rodbus.C07.reply_fits_writer
#print axioms Rodbus.C07.reader_errors_are_protocol_errors
#print axioms Rodbus.endOf_cases
#print axioms Rodbus.C07.session_outcome
#print axioms Rodbus.C07.shutdown_honoured
#print axioms Rodbus.no_spurious_eof
#print axioms Rodbus.no_internal_error
#print axioms Rodbus.read_has_space
#print axioms Rodbus.C06.no_spurious_eof
#print axioms Rodbus.C06.no_internal_short_read
#print axioms Rodbus.C06.peek_in_bounds
#print axioms Rodbus.C06.parse_no_internal_error
#print axioms Rodbus.C01.reply_pdu_len
#print axioms Rodbus.C01.read_byte_count_fits
#print axioms Rodbus.C02.decoded_request_in_limits
#print axioms Rodbus.C04.returned_indices
#print axioms Rodbus.C04.trichotomy
#print axioms Rodbus.C03.encode_len
#print axioms Rodbus.C01W.write_failure_ends_session
#print axioms Rodbus.C01W.write_failure_unreached
#print axioms Rodbus.C01W.write_failure_session
#print axioms Rodbus.Cancel.session_cancel_safe_with_write_fault
