import RodbusModel.Props.C04
/-! axiom audit of every property theorem of Props/C04 -/
#print axioms Rodbus.C04.success_iff
#print axioms Rodbus.C04.reply_data_unique
#print axioms Rodbus.C04.success_function_code
#print axioms Rodbus.C04.exception_iff
#print axioms Rodbus.C04.otherwise_error
#print axioms Rodbus.C04.trichotomy
#print axioms Rodbus.C04.badRequest_iff
#print axioms Rodbus.C04.empty_reply
#print axioms Rodbus.C04.foreign_function_code
#print axioms Rodbus.C04.exception_code_roundtrip
#print axioms Rodbus.C04.exception_code_injective
#print axioms Rodbus.C04.exOfByte_table
#print axioms Rodbus.C04.exOfByte_unlisted
#print axioms Rodbus.C04.exToByte_table
#print axioms Rodbus.C04.exToByte_unlisted
#print axioms Rodbus.C04.returned_indices
#print axioms Rodbus.C04.returned_values
#print axioms Rodbus.C04.readAll_ok_iff
#print axioms Rodbus.C04.readAll_error_iff
#print axioms Rodbus.C04.end_to_end
#print axioms Rodbus.C04.end_to_end_wire
