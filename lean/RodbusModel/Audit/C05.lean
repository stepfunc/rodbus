import RodbusModel.Props.C05Cancel
import RodbusModel.Props.C05
/-! axiom audit of Props/C05, of `Mbap.constants_ok` (Model/Mbap) and of Props/C05Cancel -/
#print axioms Rodbus.chunking_independent
#print axioms Rodbus.chunking_irrelevant
#print axioms Rodbus.reader_invariant
#print axioms Rodbus.pump_reachable
#print axioms Rodbus.read_has_space
#print axioms Rodbus.pump_read_has_space
#print axioms Rodbus.run_errors
#print axioms Rodbus.no_spurious_eof
#print axioms Rodbus.no_internal_error
#print axioms Rodbus.bad_header_ends_session
#print axioms Rodbus.bad_protocol_id
#print axioms Rodbus.bad_length_too_big
#print axioms Rodbus.bad_length_zero
#print axioms Rodbus.bad_header_after_frames
#print axioms Rodbus.bad_header_ends_session_chunked
#print axioms Rodbus.format_length_le
#print axioms Rodbus.format_wf
#print axioms Rodbus.specFrames_append_frame
#print axioms Rodbus.specFrames_append_frames
#print axioms Rodbus.frames_roundtrip
#print axioms Rodbus.frames_roundtrip_chunked
#print axioms Rodbus.no_loss_no_reread
#print axioms Rodbus.Mbap.constants_ok
#print axioms Rodbus.Cancel.cancel_safe_mbap
#print axioms Rodbus.Cancel.cancel_safe_rtu
#print axioms Rodbus.Cancel.deliveriesC_cut
#print axioms Rodbus.Cancel.readerRunC_eq
#print axioms Rodbus.Cancel.session_cancel_safe
#print axioms Rodbus.Cancel.session_cancel_safe_with_write_fault
