import RodbusModel.Props.C15Net
import RodbusModel.Props.C15NetTls
#print axioms Rodbus.C15Net.accept_iff_matches
#print axioms Rodbus.C15Net.accepted_is_open
#print axioms Rodbus.C15Net.rejected_no_effect
#print axioms Rodbus.C15Net.isolation_lookup
#print axioms Rodbus.C15Net.isolation
#print axioms Rodbus.C15Net.request_answer
#print axioms Rodbus.C15Net.shutdown_closes_all
#print axioms Rodbus.C15Net.refused_after_shutdown
#print axioms Rodbus.C15Net.listening_monotone_run
#print axioms Rodbus.C15Net.session_bound
#print axioms Rodbus.C15Net.Compat.symm
#print axioms Rodbus.C15Net.pairwise_mem
#print axioms Rodbus.C15Net.WF.openTracked
#print axioms Rodbus.C15Net.WF.distinct
#print axioms Rodbus.C15Net.wf_init
#print axioms Rodbus.C15Net.compat_setConn
#print axioms Rodbus.C15Net.wf_setConn_none
#print axioms Rodbus.C15Net.wf_endSession
#print axioms Rodbus.C15Net.wf_closeAll
#print axioms Rodbus.C15Net.wf_accept
#print axioms Rodbus.C15Net.wf_apply
#print axioms Rodbus.C15Net.wf_step
#print axioms Rodbus.C15Net.wf_run
#print axioms Rodbus.C15Net.open_conns_tracked_step
#print axioms Rodbus.C15Net.open_conns_tracked
#print axioms Rodbus.C15Net.open_ids_distinct
#print axioms Rodbus.C15Net.WF.open_le_tracked
#print axioms Rodbus.C15Net.open_bound
#print axioms Rodbus.C15Net.sweepVal_add
#print axioms Rodbus.C15Net.lookup_accept_ne_wf
#print axioms Rodbus.C15Net.evicted_is_oldest
#print axioms Rodbus.C15Net.evicted_is_oldest_isOpen
#print axioms Rodbus.C15Net.accept_no_eviction
#print axioms Rodbus.C15Net.owned_apply
#print axioms Rodbus.C15Net.owned_step
#print axioms Rodbus.C15Net.owned_run
#print axioms Rodbus.C15Net.tracked_ids_open
#print axioms Rodbus.C15Net.evicted_is_oldest_exact
#print axioms Rodbus.ServerNet.find_key_filter_ne
#print axioms Rodbus.ServerNet.find_key_filter_self
#print axioms Rodbus.ServerNet.lookup_setConn_ne
#print axioms Rodbus.ServerNet.lookup_setConn_self
#print axioms Rodbus.ServerNet.lookup_remove_ne
#print axioms Rodbus.ServerNet.lookup_remove_self
#print axioms Rodbus.ServerNet.sweep_conns
#print axioms Rodbus.ServerNet.lookup_sweep
#print axioms Rodbus.ServerNet.mem_of_lookup
#print axioms Rodbus.ServerNet.isOpen_iff
#print axioms Rodbus.ServerNet.lookup_map_values
#print axioms Rodbus.ServerNet.lookup_closeConns
#print axioms Rodbus.ServerNet.isOpen_congr
#print axioms Rodbus.ServerNet.ne_of_open_of_not_open
#print axioms Rodbus.ServerNet.sweepVal_some
#print axioms Rodbus.ServerNet.sweepVal_eq_some
#print axioms Rodbus.ServerNet.endSession_eq
#print axioms Rodbus.ServerNet.mem_endSession_ids
#print axioms Rodbus.ServerNet.lookup_endSession_ne
#print axioms Rodbus.ServerNet.lookup_endSession_self
#print axioms Rodbus.ServerNet.lookup_acceptConn_ne
#print axioms Rodbus.ServerNet.lookup_acceptConn_self
#print axioms Rodbus.ServerNet.step_eq
#print axioms Rodbus.ServerNet.step_fst
#print axioms Rodbus.ServerNet.step_connect_refused
#print axioms Rodbus.ServerNet.step_connect_accept
#print axioms Rodbus.ServerNet.step_connect_reject
#print axioms Rodbus.ServerNet.step_preserves
#print axioms Rodbus.ServerNet.run_cons
#print axioms Rodbus.ServerNet.run_pair_fst
#print axioms Rodbus.ServerNet.run_preserves
#print axioms Rodbus.ServerNet.runAux_eq
#print axioms Rodbus.ServerNet.step_frame
#print axioms Rodbus.ServerNet.lookup_apply_ne
#print axioms Rodbus.ServerNet.lookup_step_ne
#print axioms Rodbus.ServerNet.effect_connect
#print axioms Rodbus.ServerNet.lookup_none_step
#print axioms Rodbus.ServerNet.lookup_close
#print axioms Rodbus.ServerNet.tracker_close
#print axioms Rodbus.C15Net.runTR_eq_run
#print axioms Rodbus.C15Net.pipeline_answer
#print axioms Rodbus.C15Net.pipeline_state
#print axioms Rodbus.C15Net.isolation_pipeline
#print axioms Rodbus.C15Net.connect_room
#print axioms Rodbus.C15Net.churn_one
#print axioms Rodbus.C15Net.churnSteps_succ
#print axioms Rodbus.C15Net.churn_keeps_sessions
#print axioms Rodbus.C15Net.churn_keeps_open
#print axioms Rodbus.C15Net.closeTracker_comm
#print axioms Rodbus.C15Net.burst_order_irrelevant
/- no service before admission (Props/C15NetTls.lean) -/
#print axioms Rodbus.C15Net.tls_constant_run
#print axioms Rodbus.C15Net.no_service_before_admission
#print axioms Rodbus.C15Net.tls_step_not_served
#print axioms Rodbus.C15Net.tls_run_not_served
#print axioms Rodbus.C15Net.no_service_before_admission_reachable
#print axioms Rodbus.C15Net.tls_trace_serves_nothing
#print axioms Rodbus.C15Net.plain_tcp_is_served
