import RodbusModel.Props.C12Run
/-! axiom audit of every property theorem of Props/C12Run and of the lemmas it rests on
    (Lemmas/ClientSessions, Lemmas/ClientDrain) -/
#print axioms Rodbus.Client.timeout_at_deadline_of_quiet
#print axioms Rodbus.Client.timeout_at_deadline_run
#print axioms Rodbus.Client.timeout_at_deadline_run_mbap
#print axioms Rodbus.Client.timeout_at_deadline_run_rtu
#print axioms Rodbus.Client.timeout_completion_at_deadline_run
#print axioms Rodbus.Client.task_log_is_the_log_of_the_task
#print axioms Rodbus.Client.max_timeouts_exact_run
#print axioms Rodbus.Client.no_limit_never_max_timeouts
#print axioms Rodbus.Client.max_timeouts_reports_limit
#print axioms Rodbus.Client.max_timeouts_iff_feed
#print axioms Rodbus.Client.Example.as_worded_is_false
#print axioms Rodbus.Client.sessInv_teff
#print axioms Rodbus.Client.runState_sessInv
#print axioms Rodbus.Client.reachable_quiet
#print axioms Rodbus.Client.advance_before_deadline
#print axioms Rodbus.Client.advance_reaches_deadline
#print axioms Rodbus.Client.taskLog_fins
#print axioms Rodbus.Client.phasesOf_split
#print axioms Rodbus.Client.phasesOf_fst
