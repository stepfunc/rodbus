import RodbusModel.Props.C13
#print axioms Rodbus.C13.legal_path
#print axioms Rodbus.C13.legal_path_spelled_out
#print axioms Rodbus.C13.connecting_only_enabled
#print axioms Rodbus.C13.connecting_only_enabled_run
#print axioms Rodbus.C13.no_attempt_while_disabled
#print axioms Rodbus.Life.legalNext_connected
#print axioms Rodbus.C13.connected_only_after_connecting
#print axioms Rodbus.C13.wait_after_failed_attempt
#print axioms Rodbus.C13.wait_after_refused
#print axioms Rodbus.C13.wait_after_failed_handshake
#print axioms Rodbus.C13.wait_after_failed_attempt_announced
#print axioms Rodbus.C13.wait_after_refused_announced
#print axioms Rodbus.C13.wait_after_failed_handshake_announced
#print axioms Rodbus.C13.failed_attempt_outcomes
#print axioms Rodbus.C13.refused_outcomes
#print axioms Rodbus.C13.failed_handshake_outcomes
#print axioms Rodbus.C13.lost_session_outcomes
#print axioms Rodbus.C13.lost_session_socket_first
#print axioms Rodbus.C13.wait_after_lost_connection
#print axioms Rodbus.C13.serveN_serves
#print axioms Rodbus.C13.wait_after_lost_connection_in_flight
#print axioms Rodbus.Life.noconnEvents_requests
#print axioms Rodbus.C13.wait_after_lost_connection_served
#print axioms Rodbus.C13.silent_session_ends_after_maxto
#print axioms Rodbus.C13.silent_session_survives
#print axioms Rodbus.C13.disable_leads_to_disabled
#print axioms Rodbus.C13.disable_noop_when_disabled
#print axioms Rodbus.C13.disable_after_requests
#print axioms Rodbus.C13.disable_closes_connection
#print axioms Rodbus.C13.fail_fast
#print axioms Rodbus.C13.fail_fast_requests_only
#print axioms Rodbus.C13.no_request_survives_to_connected
#print axioms Rodbus.C13.never_sleeps_on_requests
#print axioms Rodbus.C13.shutdown_from_anywhere
#print axioms Rodbus.C13.finished_flushes
#print axioms Rodbus.C13.foldl_applyDone_eq
#print axioms Rodbus.C13.runStops_done_eq
#print axioms Rodbus.C13.done_is_final
#print axioms Rodbus.C13.afterEvents_quiet
#print axioms Rodbus.C13.afterEvents_exactly_once
#print axioms Rodbus.C13.afterEvents_submitted
#print axioms Rodbus.C13.after_shutdown_handles_report_shutdown
#print axioms Rodbus.C13.conservation
#print axioms Rodbus.C13.exactly_once
#print axioms Rodbus.C13.initial_coins
#print axioms Rodbus.C13.legal_path_every_resolution
#print axioms Rodbus.C13.conservation_every_resolution
#print axioms Rodbus.C13.exactly_once_every_resolution
#print axioms Rodbus.C13.shutdown_from_anywhere_every_resolution
#print axioms Rodbus.C13.announced_delays_follow_strategy_failures
#print axioms Rodbus.C13.announced_delays_follow_strategy
#print axioms Rodbus.C13.announced_delays_follow_strategy_tls
#print axioms Rodbus.C13.retry_reset_on_connect
#print axioms Rodbus.C13.restart_after_success
#print axioms Rodbus.C13.lost_connection_delay_is_min
#print axioms Rodbus.C13.wait_is_waited
#print axioms Rodbus.C13.queued_fail_fast_at_wait_gate
#print axioms Rodbus.C13.wait_after_lost_connection_mid_session
#print axioms Rodbus.C13.decode_changes_only_decode
#print axioms Rodbus.C13.foldl_setDecode
#print axioms Rodbus.C13.drains_while_disabled
#print axioms Rodbus.C13.decode_level_never_dials
