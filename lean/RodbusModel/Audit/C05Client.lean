import RodbusModel.Props.C05Client
/-! axiom audit of every property theorem of Props/C05Client and of the lemmas it uses -/
#print axioms Rodbus.Client.rx_chunking_mbap
#print axioms Rodbus.Client.rx_chunking_rtu
#print axioms Rodbus.Client.rx_chunking_mbap_reachable
#print axioms Rodbus.Client.rx_chunking_rtu_reachable
#print axioms Rodbus.Client.reader_chunking_mbap
#print axioms Rodbus.Client.reader_chunking_rtu
#print axioms Rodbus.Client.quiet_of_blocked
#print axioms Rodbus.Client.runState_blocked_mbap
#print axioms Rodbus.Client.runState_blocked_rtu
#print axioms Rodbus.Client.rx_split
#print axioms Rodbus.Client.step_prefix
#print axioms Rodbus.Client.readerPoll_split
#print axioms Rodbus.Client.readerPoll_mid
#print axioms Rodbus.Client.tick_deliver
#print axioms Rodbus.Client.tick_quiet_none
#print axioms Rodbus.Client.mbap_hopInv
#print axioms Rodbus.Client.rtu_hopInv
#print axioms Rodbus.Rtu.parse_none_nonempty
#print axioms Rodbus.Client.Example.Chunk.waiting_quiet
#print axioms Rodbus.Client.Example.Chunk.rtuWaiting_quiet
#print axioms Rodbus.Client.Example.Chunk.split_after_reply_differs
#print axioms Rodbus.Client.Example.Chunk.split_at_header_end_differs
#print axioms Rodbus.Client.Example.Chunk.unread_chunks_differ
