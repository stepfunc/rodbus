import RodbusModel.Props.C10
/-! axiom audit of every property theorem of Props/C10 -/
#print axioms Rodbus.Client.model_refines
#print axioms Rodbus.Client.pending_partition
#print axioms Rodbus.Client.never_completed_twice
#print axioms Rodbus.Client.closed_trace_exactly_once
#print axioms Rodbus.Client.drained_exactly_once
#print axioms Rodbus.Client.drain_completes_partial
#print axioms Rodbus.Client.error_meaning_noconn
#print axioms Rodbus.Client.error_meaning_timeout
#print axioms Rodbus.Client.error_meaning_transport
#print axioms Rodbus.Client.error_meaning_shutdown_task
#print axioms Rodbus.Client.error_meaning_shutdown_partial
#print axioms Rodbus.Client.runState_reach
#print axioms Rodbus.Client.tick_eff
#print axioms Rodbus.Client.applyStep_eff
#print axioms Rodbus.Client.bal_reach
#print axioms Rodbus.Client.tidy_reach
#print axioms Rodbus.Client.drain_idle
#print axioms Rodbus.Client.session_ending_table_correct
