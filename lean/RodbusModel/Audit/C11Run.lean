import RodbusModel.Props.C11Run
/-! axiom audit of Props/C11Run and of the run-level reader invariants of Lemmas/ClientReader -/
#print axioms Rodbus.Client.stale_frame_never_accepted_rtu_reachable
#print axioms Rodbus.Client.rtu_stok_reachable
#print axioms Rodbus.Client.reachable_pst
#print axioms Rodbus.Client.RdInv.blocks
#print axioms Rodbus.Client.rtu_readerSafe
