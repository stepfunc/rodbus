import RodbusModel.Props.C11Trace
/-! axiom audit of every property theorem of Props/C11Trace and of the lemmas it rests on
    (Lemmas/ClientCause) -/
#print axioms Rodbus.Client.completion_cause
#print axioms Rodbus.Client.completion_caused_by_matching_frame
#print axioms Rodbus.Client.foreign_frame_never_result
#print axioms Rodbus.Client.written_txid_unique
#print axioms Rodbus.Client.no_reply_completion_unless_inflight
#print axioms Rodbus.Client.idle_frame_dropped_any_order
#print axioms Rodbus.Client.respResult_ok_iff
#print axioms Rodbus.Client.respResult_exc_iff
#print axioms Rodbus.Client.ok_completion_is_wellformed_reply
#print axioms Rodbus.Client.exc_completion_is_exception_reply
#print axioms Rodbus.Client.TickCause.reply
#print axioms Rodbus.Client.tick_done_cause
#print axioms Rodbus.Client.runState_done_cause
#print axioms Rodbus.Client.mem_runTrace
#print axioms Rodbus.Client.runTrace_mem
#print axioms Rodbus.Client.pollReader_fail_not_reply
#print axioms Rodbus.Client.inflightSent_reach
#print axioms Rodbus.Client.steps_sent_mono
#print axioms Rodbus.Client.run_inv
#print axioms Rodbus.Client.runTrace_inv
#print axioms Rodbus.Client.runTrace_inflightEnc
